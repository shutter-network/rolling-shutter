/-
The mempool bookkeeping (`CheckTxState`) is written by block execution (member list, reset at commit) but
never read by it: every call of the block sequence commutes with replacing that bookkeeping.
-/
import Shutter.Proofs.AppFrame

namespace Shutter.Mempool
open Shutter Shutter.App Shutter.App.App

/-- the same node with another mempool view -/
def withCheck (a : App.App) (c : CheckTxState) : App.App := { a with checkTx := c }

@[simp] theorem withCheck_self (a : App.App) : withCheck a a.checkTx = a := rfl

theorem startDKG_mem (a : App.App) (c : CheckTxState) (cfg : BatchConfig) :
    startDKG (withCheck a c) cfg = (withCheck (startDKG a cfg).1 c, (startDKG a cfg).2) := rfl

/-- `c'` differs from `c` only after an accepted configuration, which recomputes the member list -/
theorem deliverMessage_withCheck (o : Order) (a : App.App) (c : CheckTxState) (s : Addr) (p : Payload) :
    ∃ c', deliverMessage o (withCheck a c) s p =
      (withCheck (deliverMessage o a s p).1 c', (deliverMessage o a s p).2) := by
  obtain ⟨F, h, hF⟩ := deliverMessage_effect o a s p
  -- `withCheck a c` is `a.withRest a.nonces c` only up to `rfl`: `show` puts the calls in the form `hF` speaks of
  rw [show deliverMessage o (withCheck a c) s p = _ from hF a.nonces c,
    show deliverMessage o a s p = _ from hF a.nonces a.checkTx]
  cases h <;> exact ⟨_, rfl⟩

theorem beginBlock_mem (a : App.App) (c : CheckTxState) (h : Int) : beginBlock (withCheck a c) h = beginBlock a h := rfl

def isBlockOp : Op → Bool
  | .check _ => false
  | _ => true

def isBlockOut : Out → Bool
  | .check _ => false
  | _ => true

/-- the block sequence of a history: the calls Tendermint makes on every replica alike -/
def blockOps (h : List (Order × Op)) : List (Order × Op) := h.filter (fun p => isBlockOp p.2)
def blockOuts (outs : List Out) : List Out := outs.filter isBlockOut

theorem stepWith_withCheck (o : Order) (a : App.App) (c : CheckTxState) (op : Op) (hop : isBlockOp op = true) :
    ∃ c', stepWith o (withCheck a c) op = (withCheck (stepWith o a op).1 c', (stepWith o a op).2) ∧
      isBlockOut (stepWith o a op).2 = true := by
  cases op with
  | begin h => exact ⟨c, rfl, rfl⟩
  | deliver tx =>
    have hc : ∃ c', deliverTx o (withCheck a c) tx = (withCheck (deliverTx o a tx).1 c', (deliverTx o a tx).2) := by
      rcases deliverTx_cases o a tx with h | ⟨s, ch, n, p, rfl, h⟩ <;>
        rw [h a rfl fun _ _ _ => rfl, h (withCheck a c) rfl fun _ _ _ => rfl]
      · exact ⟨c, rfl⟩
      · exact deliverMessage_withCheck o { a with nonces := a.nonces ++ [(s, n)] } c s p
    obtain ⟨c', hc⟩ := hc
    exact ⟨c', congrArg (fun x : App.App × Resp => (x.1, Out.deliver x.2)) hc, rfl⟩
  | check tx => cases hop
  | endBlock h =>
    exact ⟨c, congrArg (fun x : App.App × EndResp => (x.1, Out.endBlock x.2)) (endBlock_withRest o a a.nonces c h), rfl⟩
  | commit => exact ⟨_, rfl, rfl⟩

theorem stepWith_check (o : Order) (a : App.App) (tx : Tx) :
    ∃ c', (stepWith o a (.check tx)).1 = withCheck a c' ∧ isBlockOut (stepWith o a (.check tx)).2 = false := by
  obtain ⟨c', hc, -⟩ := checkTxOp_fst a tx
  exact ⟨c', hc, rfl⟩

end Shutter.Mempool
