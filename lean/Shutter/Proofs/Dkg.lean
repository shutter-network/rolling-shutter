/- Lemmas about `Model/Dkg.lean`: who counts as corrupt, and what each outcome of `result` says. -/
import Shutter.Model.Dkg

namespace Shutter.Dkg
open List

theorem isCorrupt_eq_false_iff {v : View} {d : Nat} :
    isCorrupt v d = false ↔
      v.committed.getD d false = true ∧ (∀ a ∈ v.apologies, a.1.2 = d → a.2 = true) ∧
      ∀ k ∈ v.accusations, k.2 = d → ∃ a ∈ v.apologies, a.1 = k := by
  simp only [isCorrupt, Bool.or_eq_false_iff, Bool.not_eq_false', any_eq_false, Bool.and_eq_true, decide_eq_true_eq,
    Bool.not_eq_true', not_and, Bool.not_eq_false, and_assoc, Classical.not_forall, exists_prop,
    Classical.not_not]

theorem mem_participants {v : View} {d : Nat} : d ∈ participants v ↔ d < v.n ∧ isCorrupt v d = false := by
  rw [participants, mem_filter, mem_range, Bool.not_eq_true']

theorem result_eq_ok_iff {v : View} {ps : List Nat} :
    result v = .ok ps ↔
      ps = participants v ∧ (∀ d ∈ participants v, v.evalOK.getD d false = true) ∧ v.t ≤ (participants v).length := by
  fun_cases result v with
  | case1 d h =>
    have hd := find?_some h
    have hmem := mem_of_find?_eq_some h
    refine ⟨nofun, fun ⟨_, hall, _⟩ => ?_⟩
    rw [hall d hmem] at hd
    cases hd
  | case2 _ hlt => exact ⟨nofun, fun ⟨_, _, hle⟩ => absurd hlt (Nat.not_lt.2 hle)⟩
  | case3 h hlt =>
    have hall : ∀ d ∈ participants v, v.evalOK.getD d false = true := by
      simpa only [find?_eq_none, Bool.not_eq_true', Bool.not_eq_false] using h
    exact ⟨fun h => ⟨(Outcome.ok.inj h).symm, hall, Nat.not_lt.1 hlt⟩, fun ⟨h, _, _⟩ => by rw [h]⟩

theorem result_abort {v : View} {d : Nat} (h : result v = .abort d) :
    d ∈ participants v ∧ v.evalOK.getD d false = false := by
  revert h
  fun_cases result v with
  | case1 d' hfind =>
    rintro ⟨⟩
    exact ⟨mem_of_find?_eq_some hfind, by simpa using find?_some hfind⟩
  | case2 | case3 => nofun

theorem result_tooFew {v : View} {k : Nat} (h : result v = .tooFew k) :
    k = (participants v).length ∧ k < v.t := by
  revert h
  fun_cases result v with
  | case1 | case3 => nofun
  | case2 _ hlt =>
    rintro ⟨⟩
    exact ⟨rfl, hlt⟩

end Shutter.Dkg
