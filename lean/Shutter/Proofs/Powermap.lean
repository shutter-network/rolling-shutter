/-
`DiffPowermaps`, `ValidatorUpdates` and Tendermint's way of applying validator updates.

A Go map is an `AMap` with distinct keys; a `range` over it is a fold over any `Listing` of it.  The
only observation is `get?`: the diff is characterised by `get?_diff`, the sorted update list depends
only on the `get?` of what it sorts (`sortByKey_eq_of_get?_eq`), and `tmApply_spec` says what
Tendermint's application looks up afterwards.
-/
import Shutter.Model.App
import Shutter.Proofs.Sort
import Shutter.Proofs.List

namespace Shutter.App
open Shutter

/-- `l` is a listing of the Go map `m`: exactly its entries, in any order, possibly repeated. -/
def Listing (m : AMap PubKey Int) (l : List (PubKey × Int)) : Prop :=
  ∀ k v, (k, v) ∈ l ↔ m.get? k = some v

/-- Tendermint's validator-set update: power 0 removes (an error if absent), otherwise set.  Trusted: this is
    the development's reading of Tendermint's `ValidatorSet.UpdateWithChangeSet` as far as C12 needs it; its other
    refusals (a negative power, a total above the maximum, a change set that empties the set) are left out. -/
def tmApply : AMap PubKey Int → List (PubKey × Int) → Option (AMap PubKey Int)
  | m, [] => some m
  | m, (k, p) :: rest =>
    if p = 0 then
      if m.contains k then tmApply (m.erase k) rest else none
    else tmApply (m.insert k p) rest

def SortedLT : List (PubKey × Int) → Prop
  | [] => True
  | [_] => True
  | a :: b :: rest => a.1 < b.1 ∧ SortedLT (b :: rest)

theorem listing_of_perm {m : AMap PubKey Int} {l : List (PubKey × Int)} (hn : (AMap.keys m).Nodup)
    (hp : l.Perm m) : Listing m l :=
  fun k v => hp.mem_iff.trans (AMap.mem_iff_get? hn k v)

/-- `AMap.get?_foldl_insertIf` over a whole listing: the order of the range does not reach the result. -/
theorem Listing.get?_foldl_insertIf {m : AMap PubKey Int} {l : List (PubKey × Int)} (hl : Listing m l)
    (p : PubKey → Int → Prop) [∀ k v, Decidable (p k v)] (f : PubKey → Int → Int)
    (init : AMap PubKey Int) (k : PubKey) :
    AMap.get? (l.foldl (fun res e => if p e.1 e.2 then res.insert e.1 (f e.1 e.2) else res) init) k =
      match m.get? k with
      | some v => if p k v then some (f k v) else AMap.get? init k
      | none => AMap.get? init k := by
  rw [AMap.get?_foldl_insertIf p f m l (fun e he => (hl e.1 e.2).1 he)]
  cases hm : m.get? k with
  | none => rfl
  | some v => simp only [AMap.mem_keys_of_mem ((hl k v).2 hm), true_and]

theorem get?_diff {oldm newm : AMap PubKey Int} {oldL newL : List (PubKey × Int)}
    (ho : Listing oldm oldL) (hn : Listing newm newL) (k : PubKey) :
    AMap.get? (App.diffPowermapsOn oldm newm oldL newL) k =
      match newm.get? k with
      | some v => if oldm.getD k 0 ≠ v then some v else none
      | none => if oldm.contains k then some 0 else none := by
  unfold App.diffPowermapsOn
  -- bring the first loop into the `if p then insert else res` shape of `get?_foldl_insertIf`
  simp only [← ite_not (newm.contains _ = true)]
  rw [hn.get?_foldl_insertIf (fun k v => oldm.getD k 0 ≠ v) (fun _ v => v),
    ho.get?_foldl_insertIf (fun k _ => ¬ newm.contains k = true) (fun _ _ => 0)]
  cases hnk : newm.get? k <;> cases hok : oldm.get? k <;> simp [AMap.contains, hnk, hok]

theorem keys_diff_nodup (oldm newm : AMap PubKey Int) (oldL newL : List (PubKey × Int)) :
    (AMap.keys (App.diffPowermapsOn oldm newm oldL newL)).Nodup := by
  unfold App.diffPowermapsOn
  apply AMap.keys_foldl_nodup
  · intro res e h
    split
    · exact AMap.keys_insert_nodup _ h
    · exact h
  apply AMap.keys_foldl_nodup
  · intro res e h
    split
    · exact h
    · exact AMap.keys_insert_nodup _ h
  · exact List.nodup_nil

theorem sortByKey_eq_isort (l : List (PubKey × Int)) :
    App.sortByKey l = Sort.isort (fun a b => decide (a.1 ≤ b.1)) l := by
  have hins : ∀ e l, App.insertSorted e l = Sort.insertBy (fun a b => decide (a.1 ≤ b.1)) e l := by
    intro e l
    induction l with
    | nil => rfl
    | cons x rest ih => simp only [App.insertSorted, Sort.insertBy, ih, decide_eq_true_eq]
  induction l with
  | nil => rfl
  | cons x rest ih => rw [Sort.isort, ← ih, ← hins]; rfl

theorem sortByKey_perm (l : List (PubKey × Int)) : (App.sortByKey l).Perm l :=
  sortByKey_eq_isort l ▸ Sort.isort_perm _ l

theorem sortedLT_iff_pairwise (l : List (PubKey × Int)) :
    SortedLT l ↔ l.Pairwise (fun a b => a.1 < b.1) :=
  adjacent_iff_pairwise (R := fun a b => a.1 < b.1) (fun _ _ _ => Nat.lt_trans) trivial (fun _ => trivial)
    (fun _ _ _ => Iff.rfl) l

theorem sortByKey_pairwise {l : List (PubKey × Int)} (hn : (AMap.keys l).Nodup) :
    (App.sortByKey l).Pairwise (fun a b => a.1 < b.1) := by
  have hle : (App.sortByKey l).Pairwise (fun a b => a.1 ≤ b.1) := by
    rw [sortByKey_eq_isort]
    exact (Sort.isort_pairwise _ (fun a b c => by simpa using Nat.le_trans)
      (fun a b => by simpa using Nat.le_total a.1 b.1) l).imp (by simp)
  have hne : (App.sortByKey l).Pairwise (fun a b => a.1 ≠ b.1) :=
    List.pairwise_map.1 (((sortByKey_perm l).map _).nodup_iff.2 hn)
  exact hle.imp₂ (fun _ _ => Nat.lt_of_le_of_ne) hne

/-- `sort.Slice` is not stable, but on distinct keys it has one result, and that depends only on what the keys
    look up: the order in which the map was listed does not reach it -/
theorem sortByKey_eq_of_get?_eq {l₁ l₂ : List (PubKey × Int)} (h₁ : (AMap.keys l₁).Nodup)
    (h₂ : (AMap.keys l₂).Nodup) (h : ∀ k, AMap.get? l₁ k = AMap.get? l₂ k) :
    App.sortByKey l₁ = App.sortByKey l₂ :=
  List.Perm.eq_of_pairwise (le := fun a b => a.1 < b.1)
    (fun _ _ _ _ hab hba => absurd (Nat.lt_trans hab hba) (Nat.lt_irrefl _))
    (sortByKey_pairwise h₁) (sortByKey_pairwise h₂)
    ((sortByKey_perm l₁).trans ((AMap.perm_of_get?_eq h₁ h₂ h).trans (sortByKey_perm l₂).symm))

theorem tmApply_spec (u : List (PubKey × Int)) (m : AMap PubKey Int)
    (hn : (AMap.keys u).Nodup)
    (hrem : ∀ k, (k, (0 : Int)) ∈ u → m.contains k) :
    ∃ m', tmApply m u = some m' ∧
      ∀ k, AMap.get? m' k =
        match AMap.get? u k with
        | some p => if p = 0 then none else some p
        | none => AMap.get? m k := by
  induction u generalizing m with
  | nil => exact ⟨m, rfl, fun k => rfl⟩
  | cons e rest ih =>
    obtain ⟨a, p⟩ := e
    rw [AMap.keys_cons, List.nodup_cons] at hn
    let m₁ := if p = 0 then m.erase a else m.insert a p
    have hstep : tmApply m ((a, p) :: rest) = tmApply m₁ rest := by
      by_cases hp : p = 0
      · simp only [tmApply, m₁, hp, if_true, hrem a (hp ▸ List.mem_cons_self)]
      · simp only [tmApply, m₁, hp, if_false]
    have hget : ∀ k, AMap.get? m₁ k = if a = k then (if p = 0 then none else some p) else AMap.get? m k := by
      intro k
      by_cases hp : p = 0 <;> simp only [m₁, hp, if_true, if_false, AMap.get?_erase, AMap.get?_insert]
    have hrem' : ∀ k, (k, (0 : Int)) ∈ rest → m₁.contains k := by
      intro k hk
      have hak : a ≠ k := fun h => hn.1 (h ▸ AMap.mem_keys_of_mem hk)
      rw [AMap.contains, hget, if_neg hak]
      exact hrem k (List.mem_cons_of_mem _ hk)
    obtain ⟨m', hm', hm'get⟩ := ih m₁ hn.2 hrem'
    refine ⟨m', hstep.trans hm', fun k => ?_⟩
    rw [hm'get, hget, AMap.get?_cons]
    by_cases hak : a = k
    · have : AMap.get? rest k = none := AMap.get?_eq_none (hak ▸ hn.1)
      simp only [hak, this, if_true]
    · simp only [hak, if_false]

end Shutter.App
