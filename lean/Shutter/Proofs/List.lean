/-
Facts about plain lists that core Lean does not have and several models' proofs use.
-/
namespace Shutter
open List

/-- `C` stands for a recursive check of neighbours; at each use `nil`, `one`, `two` hold by unfolding it -/
theorem adjacent_iff_pairwise {α : Type} {R : α → α → Prop} (trans : ∀ a b c, R a b → R b c → R a c)
    {C : List α → Prop} (nil : C []) (one : ∀ a, C [a]) (two : ∀ a b l, C (a :: b :: l) ↔ R a b ∧ C (b :: l))
    (l : List α) : C l ↔ l.Pairwise R := by
  induction l with
  | nil => simp [nil]
  | cons a rest ih =>
    cases rest with
    | nil => simp [one]
    | cons b rest' =>
      rw [two, ih, pairwise_cons (a := a)]
      refine and_congr_left fun hp => ⟨fun hab c hc => ?_, fun h => h b mem_cons_self⟩
      rcases mem_cons.1 hc with rfl | hc
      · exact hab
      · exact trans a b c hab (rel_of_pairwise_cons hp hc)

theorem pairwise_concat {α : Type} {R : α → α → Prop} {l : List α} {r : α} (h : l.Pairwise R) (hr : ∀ x ∈ l, R x r) :
    (l ++ [r]).Pairwise R :=
  pairwise_append.2 ⟨h, pairwise_singleton _ _, fun a ha _ hb => mem_singleton.1 hb ▸ hr a ha⟩

theorem findSome?_filter_of_none {α β : Type} {l : List α} {p : α → Bool} {g : α → Option β}
    (h : ∀ a ∈ l, p a = false → g a = none) : (l.filter p).findSome? g = l.findSome? g := by
  fun_induction filter p l with
  | case1 => rfl
  | case2 a rest _ ih => rw [findSome?_cons, findSome?_cons, ih fun x hx => h x (mem_cons_of_mem _ hx)]
  | case3 a rest hp ih => rw [findSome?_cons, h a mem_cons_self hp, ih fun x hx => h x (mem_cons_of_mem _ hx)]

theorem nodup_map_of_inj_on {α β : Type} (f : α → β) {l : List α} (hn : l.Nodup)
    (hinj : ∀ a ∈ l, ∀ b ∈ l, f a = f b → a = b) : (l.map f).Nodup :=
  pairwise_map.2 (Pairwise.imp_of_mem (fun ha hb hne heq => hne (hinj _ ha _ hb heq)) hn)

theorem find?_unique {α : Type} {q : α → Bool} {l₁ l₂ : List α} (hmem : ∀ a, a ∈ l₁ ↔ a ∈ l₂)
    (huniq : ∀ a b, a ∈ l₁ → b ∈ l₁ → q a = true → q b = true → a = b) : l₁.find? q = l₂.find? q := by
  cases h2 : l₂.find? q with
  | none =>
    rw [List.find?_eq_none] at h2 ⊢
    exact fun a ha => h2 a ((hmem a).1 ha)
  | some b =>
    have hb := (hmem b).2 (List.mem_of_find?_eq_some h2)
    cases h1 : l₁.find? q with
    | none => exact absurd (List.find?_some h2) (List.find?_eq_none.1 h1 b hb)
    | some a => rw [huniq a b (List.mem_of_find?_eq_some h1) hb (List.find?_some h1) (List.find?_some h2)]

end Shutter
