/-
The save steps before the rename act on the temp path only (`crash_final_before`); after the rename the final
path holds the complete, durable new encoding (`crash_final_after`).
-/
import Shutter.Model.SaveFile

namespace Shutter.SaveFile

@[simp] theorem Fs.set_same (fs : Fs) (p : String) (v : Option File) : (fs.set p v) p = v := by
  simp [Fs.set]

theorem Fs.set_other {fs : Fs} {p q : String} {v : Option File} (h : q ≠ p) : (fs.set p v) q = fs q := by
  simp [Fs.set, h]

theorem step_other {p q : String} (h : q ≠ p) (fs : Fs) :
    step fs (.create p) q = fs q ∧ (∀ d, step fs (.write p d) q = fs q) ∧ step fs (.sync p) q = fs q := by
  simp only [step]
  cases fs p with
  | none => exact ⟨Fs.set_other h, fun _ => rfl, rfl⟩
  | some f => exact ⟨Fs.set_other h, fun _ => Fs.set_other h, Fs.set_other h⟩

theorem visible_complete {fs : Fs} {p : String} {d : Bytes} {c : Option Bytes}
    (h : fs p = some { data := d, durable := d.length }) (hv : Visible fs p c) : c = some d := by
  unfold Visible at hv
  rw [h] at hv
  obtain ⟨k, hk1, hk2, hc⟩ := hv
  have : k = d.length := Nat.le_antisymm hk2 hk1
  rw [hc, this, List.take_length]

theorem crash_final_before (fs : Fs) (tmp final : String) (hne : tmp ≠ final) (enc : Bytes) (i j : Nat) (hi : i < 4) :
    (crashState fs tmp final enc i j) final = fs final := by
  unfold crashState saveOps
  -- `i` = 0, 1, 2, 3 by computation; the fifth case, `i + 4`, is against `hi`
  rcases i with _ | _ | _ | _ | i
  iterate 4 simp [run, step_other hne.symm]
  exact absurd hi (Nat.not_lt.2 (Nat.le_add_left 4 i))

theorem crash_final_after (fs : Fs) (tmp final : String) (hne : tmp ≠ final) (enc : Bytes) (i j : Nat) (hi : 4 ≤ i) :
    (crashState fs tmp final enc i j) final = some { data := enc, durable := enc.length } := by
  have h1 : i ≠ 1 := by omega
  have ht : (saveOps tmp final enc).take i = saveOps tmp final enc := List.take_of_length_le hi
  unfold crashState
  rw [ht]
  -- all four steps have run, whatever the temp path held before: evaluate them
  simp [saveOps, run, step, Fs.set_same, Fs.set_other, h1, Ne.symm hne]

end Shutter.SaveFile
