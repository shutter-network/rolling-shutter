/-
The executed-nonce set is read by the guard at the top of `deliverTx` / `checkTxOp` and by
nothing else, so every other part of a call commutes with replacing it (`setNonces`).
-/
import Shutter.Proofs.AppFrame

namespace Shutter.App
open Shutter Shutter.App.App

def App.setNonces (a : App) (ns : List (Addr × Nat)) : App := { a with nonces := ns }

@[simp] theorem setNonces_nonces (a : App) (ns : List (Addr × Nat)) : (a.setNonces ns).nonces = ns := rfl
@[simp] theorem setNonces_setNonces (a : App) (ns ns' : List (Addr × Nat)) :
    (a.setNonces ns).setNonces ns' = a.setNonces ns' := rfl
theorem setNonces_self (a : App) : a.setNonces a.nonces = a := rfl

section
variable (a : App) (ns : List (Addr × Nat))

theorem deliverMessage_setNonces (o : Order) (s : Addr) (p : Payload) :
    (a.setNonces ns).deliverMessage o s p = Prod.map (·.setNonces ns) id (a.deliverMessage o s p) := by
  obtain ⟨F, h, hF⟩ := deliverMessage_effect o a s p
  -- `a.setNonces ns` and `a` are `a.withRest ns a.checkTx` and `a.withRest a.nonces a.checkTx` up to `rfl`, not
  -- syntactically: `show` puts the two calls in the form `hF` speaks of
  rw [show (a.setNonces ns).deliverMessage o s p = _ from hF ns a.checkTx,
    show a.deliverMessage o s p = _ from hF a.nonces a.checkTx]
  cases h <;> rfl

theorem checkTxOp_setNonces (tx : Tx)
    (h : ∀ s n, tx.signer? = some s → a.nonces.contains (s, n) = ns.contains (s, n)) :
    (a.setNonces ns).checkTxOp tx = Prod.map (·.setNonces ns) id (a.checkTxOp tx) := by
  cases tx with
  | undecodable => rfl
  | msg s c n p =>
    simp only [checkTxOp, setNonces_nonces, ← h s n rfl, apply_ite (Prod.map (fun x : App => x.setNonces ns) id)]
    rfl

end

theorem commit_setNonces (a : App) (ns : List (Addr × Nat)) :
    (a.setNonces ns).commit = (a.commit).setNonces ns := rfl

theorem beginBlock_setNonces (a : App) (ns : List (Addr × Nat)) (h : Int) :
    (a.setNonces ns).beginBlock h = a.beginBlock h := rfl

/-- `b` is `a` with a different nonce set that agrees with `a`'s on every sender but `s` -/
def AgreeBut (s : Addr) (a b : App) : Prop :=
  ∃ nb, b = a.setNonces nb ∧
    ∀ (x : Addr) (n : Nat), x ≠ s → (a.nonces.contains (x, n) = nb.contains (x, n))

theorem AgreeBut.refl (s : Addr) (a : App) : AgreeBut s a a := ⟨a.nonces, rfl, fun _ _ _ => rfl⟩

theorem AgreeBut.of_commutes {β : Type} {s : Addr} {a b : App} (h : AgreeBut s a b) (f : App → App × β)
    (hf : ∀ ns, f (a.setNonces ns) = Prod.map (·.setNonces ns) id (f a)) (hn : (f a).1.nonces = a.nonces) :
    (f a).2 = (f b).2 ∧ AgreeBut s (f a).1 (f b).1 := by
  obtain ⟨nb, rfl, hoth⟩ := h
  rw [hf]
  exact ⟨rfl, nb, rfl, hn ▸ hoth⟩

def Op.signer? : Op → Option Addr
  | .deliver tx => tx.signer?
  | .check tx => tx.signer?
  | _ => none

theorem deliverTx_agree (o : Order) {s : Addr} {a b : App} (h : AgreeBut s a b) (tx : Tx)
    (hs : tx.signer? ≠ some s) :
    (a.deliverTx o tx).2 = (b.deliverTx o tx).2 ∧
    AgreeBut s (a.deliverTx o tx).1 (b.deliverTx o tx).1 := by
  obtain ⟨nb, rfl, hoth⟩ := h
  have hb : ∀ sg n, tx.signer? = some sg → (a.setNonces nb).nonces.contains (sg, n) = a.nonces.contains (sg, n) :=
    fun sg n e => (hoth sg n fun e' => hs (e' ▸ e)).symm
  rcases deliverTx_cases o a tx with hr | ⟨sg, c, n, p, rfl, hx⟩
  · rw [hr a rfl fun _ _ _ => rfl, hr (a.setNonces nb) rfl hb]
    exact ⟨rfl, nb, rfl, hoth⟩
  · rw [hx a rfl fun _ _ _ => rfl, hx (a.setNonces nb) rfl hb]
    refine AgreeBut.of_commutes ⟨nb ++ [(sg, n)], rfl, fun x m hx' => ?_⟩ (fun x => x.deliverMessage o sg p)
      (fun ns => deliverMessage_setNonces _ ns o sg p) (deliverMessage_keeps ..).1
    rw [List.contains_append, List.contains_append, hoth x m hx']

theorem stepWith_agree (o : Order) {s : Addr} {a b : App} (h : AgreeBut s a b) (op : Op)
    (hs : op.signer? ≠ some s) :
    (a.stepWith o op).2 = (b.stepWith o op).2 ∧ AgreeBut s (a.stepWith o op).1 (b.stepWith o op).1 := by
  cases op with
  | begin ht => exact h.of_commutes (fun x => (x, Out.begin (x.beginBlock ht))) (fun _ => rfl) rfl
  | deliver tx =>
    have := deliverTx_agree o h tx hs
    exact ⟨congrArg Out.deliver this.1, this.2⟩
  | check tx =>
    obtain ⟨c, hc, -⟩ := checkTxOp_fst a tx
    show (Out.check (a.checkTxOp tx).2 = Out.check (b.checkTxOp tx).2) ∧ AgreeBut s (a.checkTxOp tx).1 (b.checkTxOp tx).1
    obtain ⟨nb, rfl, hoth⟩ := h
    rw [checkTxOp_setNonces a nb tx fun sg n e => hoth sg n fun e' => hs (e' ▸ e)]
    exact ⟨rfl, nb, rfl, by rw [hc]; exact hoth⟩
  | endBlock ht =>
    have := h.of_commutes (fun x => x.endBlock o ht) (fun ns => endBlock_withRest o a ns a.checkTx ht) rfl
    exact ⟨congrArg Out.endBlock this.1, this.2⟩
  | commit => exact h.of_commutes (fun x => (x.commit, Out.commit)) (fun _ => rfl) rfl

theorem runWith_agree {s : Addr} {a b : App} (h : AgreeBut s a b) (ops : List (Order × Op))
    (hs : ∀ p ∈ ops, p.2.signer? ≠ some s) :
    (a.runWith ops).2 = (b.runWith ops).2 ∧ AgreeBut s (a.runWith ops).1 (b.runWith ops).1 := by
  induction ops generalizing a b with
  | nil => exact ⟨rfl, h⟩
  | cons p rest ih =>
    obtain ⟨o, op⟩ := p
    simp only [App.runWith]
    have hstep := stepWith_agree o h op (hs (o, op) (by simp))
    have hrest := ih hstep.2 (fun p hp => hs p (List.mem_cons_of_mem _ hp))
    exact ⟨by rw [hstep.1, hrest.1], hrest.2⟩

end Shutter.App
