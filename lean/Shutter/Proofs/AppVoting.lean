/-
The config-vote invariant `VInv`, kept by every call, and what an accepted configuration and a key-generation restart
imply (`Accepted`, `Restarted`).
-/
import Shutter.Proofs.AppFrame
import Shutter.Proofs.Voting

namespace Shutter.App
open Shutter Shutter.App.App

structure VInv (a : App) : Prop where
  nonempty : a.configs ≠ []
  keysNodup : (AMap.keys a.configVoting.votes).Nodup
  member : ∀ e ∈ a.configVoting.votes,
    a.lastConfig.isKeyper e.1 = true ∧ e.2 < a.configVoting.candidates.length
  below : ∀ i, 0 < Voting.countOn a.configVoting.votes i →
    (Voting.countOn a.configVoting.votes i : Int) < toInt64 a.lastConfig.threshold
  thrPos : 0 < toInt64 a.lastConfig.threshold

/-- what the acceptance of a configuration implies -/
structure Accepted (a : App) (sender : Addr) (bc : BatchConfig) (a' : App) (r : Resp) : Prop where
  appended : a'.configs = a.configs ++ [bc]
  indexLarger : a.lastConfig.index < bc.index
  activationMonotone : a.lastConfig.activation ≤ bc.activation
  valid : bc.valid = true
  notStarted : bc.started = false ∧ bc.validatorsUpdated = false
  senderMember : a.lastConfig.isKeyper sender = true
  senderFresh : a.configVoting.votes.contains sender = false
  /-- there is a candidate index holding exactly `bc` whose voters, with the sender, reach the
      current configuration's threshold; they are distinct members of the current configuration -/
  quorum : ∃ j, (a.configVoting.candidates ++ [bc])[j]? = some bc ∧
      toInt64 a.lastConfig.threshold ≤ ((sender :: votersFor a.configVoting.votes j).length : Int) ∧
      (sender :: votersFor a.configVoting.votes j).Nodup ∧
      ∀ v ∈ sender :: votersFor a.configVoting.votes j, a.lastConfig.isKeyper v = true
  votesReset : a'.configVoting.votes = [] ∧ a'.configVoting.candidates = []
  eonFresh : a'.eonCounter = (a.eonCounter + 1) % 2 ^ 64
  events : r = okResp [bc.event, .eonStarted a'.eonCounter bc.activation bc.index]

/-- what a key-generation restart (an `EonStarted` answer to a `DKGResult`) implies -/
structure Restarted (a : App) (sender : Addr) (eon : Nat) (success : Bool) (a' : App) (r : Resp) :
    Prop where
  dkg : ∃ d voting, a.dkgs.get? eon = some d ∧ d.config.isKeyper sender = true ∧
      d.success.votes.contains sender = false ∧
      d.success.addVote sender success = some voting ∧
      (∃ j, voting.candidates[j]? = some false ∧
        toInt64 d.config.threshold ≤ (Voting.countOn voting.votes j : Int)) ∧
      r = okResp [.eonStarted a'.eonCounter d.config.activation d.config.index]
  newest : ¬ eon < a.eonCounter
  eonFresh : a'.eonCounter = (a.eonCounter + 1) % 2 ^ 64

theorem parseAddresses_length {ks : List Raw} {l : List Addr} (h : parseAddresses ks = some l) :
    l.length = ks.length := by
  fun_induction parseAddresses ks generalizing l with
  | case1 => cases h; rfl
  | case2 r rest a as hp _ ih => cases h; rw [List.length_cons, List.length_cons, ih hp]
  | case3 => cases h

theorem uniqueAddrs_nodup (l : List Addr) (h : uniqueAddrs l = true) : l.Nodup := by
  fun_induction uniqueAddrs l with
  | case1 => exact List.nodup_nil
  | case2 a rest ih =>
    simp only [Bool.and_eq_true, Bool.not_eq_true'] at h
    rw [List.nodup_cons]
    refine ⟨?_, ih h.2⟩
    intro hmem
    have : rest.contains a = true := List.contains_iff_mem.2 hmem
    rw [h.1] at this
    cases this

theorem batchConfigFromMessage_some {act thr idx : Nat} {ks : List Raw} {bc : BatchConfig}
    (h : batchConfigFromMessage act thr idx ks = some bc) :
    ∃ l, parseAddresses ks = some l ∧ uniqueAddrs l = true ∧
      bc = { activation := act, keypers := l, threshold := thr, index := idx, started := false,
             validatorsUpdated := false } := by
  revert h
  fun_cases batchConfigFromMessage act thr idx ks with
  | case2 l hp hu => exact fun h => ⟨l, hp, hu, (Option.some.inj h).symm⟩
  | _ => nofun

section
variable {o : Order} {a : App} {s : Addr} {bc : BatchConfig} {voting : Voting BatchConfig}

theorem VInv.vote (ho : o.Valid) (inv : VInv a) (hk : a.lastConfig.isKeyper s = true)
    (hv : a.configVoting.addVote s bc = some voting)
    (hout : voting.outcome o (toInt64 a.lastConfig.threshold) = none) :
    VInv { a with configVoting := voting } := by
  obtain ⟨hfresh, j, hvotes, -, hlenle, hjlt⟩ := addVote_some hv
  have hmem : ∀ e ∈ voting.votes, a.lastConfig.isKeyper e.1 = true ∧ e.2 < voting.candidates.length := by
    intro e he
    rw [hvotes] at he
    rcases List.mem_append.1 he with h | h
    · exact ⟨(inv.member e h).1, Nat.lt_of_lt_of_le (inv.member e h).2 hlenle⟩
    · cases List.mem_singleton.1 h; exact ⟨hk, hjlt⟩
  refine ⟨inv.nonempty, ?_, hmem, fun i hpos => ?_, inv.thrPos⟩
  · show (AMap.keys voting.votes).Nodup
    rw [hvotes, ← AMap.insert_of_not_contains _ hfresh]
    exact AMap.keys_insert_nodup _ inv.keysNodup
  · -- a candidate with a vote is on the list, and no candidate on the list has reached the threshold
    obtain ⟨e, he, rfl⟩ := countOn_pos_iff.1 hpos
    exact outcome_none ho hout (hmem e he).2 hpos

theorem VInv.of_accept {act thr idx : Nat} {ks : List Raw} (hsz : ks.length < 2 ^ 63)
    (hp : batchConfigFromMessage act thr idx ks = some bc) (hck : a.checkConfig bc = true) :
    VInv (App.startDKG (App.updateCheckTxMembers
      { a with configVoting := Voting.empty, configs := a.configs ++ [bc] }) bc).1 := by
  obtain ⟨l, hl, -, rfl⟩ := batchConfigFromMessage_some hp
  unfold checkConfig at hck
  simp only [Bool.and_eq_true] at hck
  refine ⟨by simp [updateCheckTxMembers, startDKG], List.nodup_nil, nofun, fun i hpos => ?_, ?_⟩
  · exact absurd hpos (Nat.lt_irrefl 0)
  · show 0 < toInt64 (App.lastConfig { a with configs := a.configs ++ [_] }).threshold
    rw [lastConfig_append]
    exact valid_thrPos hck.1.1 (by rw [parseAddresses_length hl]; exact hsz)

theorem Accepted.of_accept {act thr idx : Nat} {ks : List Raw} {w : BatchConfig} (ho : o.Valid) (inv : VInv a)
    (hp : batchConfigFromMessage act thr idx ks = some bc) (hck : a.checkConfig bc = true)
    (hk : a.lastConfig.isKeyper s = true) (hv : a.configVoting.addVote s bc = some voting)
    (hout : voting.outcome o (toInt64 a.lastConfig.threshold) = some w) :
    Accepted a s bc
      (App.startDKG (App.updateCheckTxMembers
        { a with configVoting := Voting.empty, configs := a.configs ++ [bc] }) bc).1
      (okResp [bc.event, .eonStarted ((a.eonCounter + 1) % 2 ^ 64) bc.activation bc.index]) := by
  obtain ⟨hfresh, j, hvotes, hcand', -, -⟩ := addVote_some hv
  obtain ⟨i, -, hpos, hreq⟩ := outcome_some ho hout
  have hcount : ∀ i, Voting.countOn voting.votes i =
      Voting.countOn a.configVoting.votes i + (if j = i then 1 else 0) := by
    intro i
    rw [hvotes]
    exact countOn_append _ _ _ _
  -- the candidate that reached the threshold is the one just voted for: the others were below it
  have hij : j = i := by
    by_cases hji : j = i
    · exact hji
    · rw [hcount i, if_neg hji, Nat.add_zero] at hpos hreq
      exact absurd hreq (Int.not_le.2 (inv.below i hpos))
  subst hij
  rw [hcount j, if_pos rfl] at hreq
  obtain ⟨l, -, -, hbc⟩ := batchConfigFromMessage_some hp
  unfold checkConfig at hck
  simp only [Bool.and_eq_true, decide_eq_true_eq] at hck
  refine ⟨rfl, hck.2, hck.1.2, hck.1.1, by rw [hbc]; exact ⟨rfl, rfl⟩, hk, hfresh, ⟨j, hcand', ?_, ?_, ?_⟩,
    ⟨rfl, rfl⟩, rfl, rfl⟩
  · simp only [List.length_cons, votersFor_length]
    omega
  · rw [List.nodup_cons]
    refine ⟨fun hin => ?_, (votersFor_sublist_keys _ _).nodup inv.keysNodup⟩
    have := (AMap.mem_keys_iff_contains _ s).1 ((votersFor_sublist_keys _ _).subset hin)
    exact nomatch hfresh.symm.trans this
  · intro v hv
    rcases List.mem_cons.1 hv with h | h
    · exact h ▸ hk
    · exact (inv.member (v, j) (mem_of_mem_votersFor h)).1

theorem Restarted.of_restart {eon : Nat} {success : Bool} {d : DKG} {voting : Voting Bool} (ho : o.Valid)
    (hd : a.dkgs.get? eon = some d) (hk : d.config.isKeyper s = true)
    (hv : d.success.addVote s success = some voting)
    (hout : voting.outcome o (toInt64 d.config.threshold) = some false) (hnew : ¬ eon < a.eonCounter) :
    Restarted a s eon success
      (App.startDKG { a with dkgs := a.dkgs.insert eon { d with success := voting } } d.config).1
      (okResp [.eonStarted ((a.eonCounter + 1) % 2 ^ 64) d.config.activation d.config.index]) := by
  obtain ⟨j, hj, -, hreq⟩ := outcome_some ho hout
  exact ⟨⟨d, voting, hd, hk, (addVote_some hv).1, hv, ⟨j, hj, hreq⟩, rfl⟩, hnew, rfl⟩

end

theorem VInv_of_core {a a' : App} (inv : VInv a)
    (h1 : a'.configs.map BatchConfig.core = a.configs.map BatchConfig.core)
    (h2 : a'.configVoting = a.configVoting) : VInv a' := by
  have hl := lastConfig_core_of_core h1
  have hk : ∀ x, a'.lastConfig.isKeyper x = a.lastConfig.isKeyper x := fun x =>
    congrArg (·.contains x) (BatchConfig.keypers_of_core hl)
  have ht := BatchConfig.threshold_of_core hl
  refine ⟨fun h => inv.nonempty ?_, h2 ▸ inv.keysNodup, ?_, ?_, ht ▸ inv.thrPos⟩
  · rw [h] at h1
    exact List.map_eq_nil_iff.1 h1.symm
  · intro e he
    rw [h2] at he ⊢
    rw [hk]
    exact inv.member e he
  · intro i hpos
    rw [h2] at hpos ⊢
    rw [ht]
    exact inv.below i hpos

/-- a batch-config message lists fewer than 2^63 keypers (a message cannot carry that many; `valid_thrPos` needs it);
    any other transaction is `Sized` -/
def Tx.Sized : Tx → Prop
  | .msg _ _ _ (.batchConfig _ _ _ ks) => ks.length < 2 ^ 63
  | _ => True

theorem deliverMessage_VInv {o : Order} {a : App} (inv : VInv a) (sender : Addr) (p : Payload) (ho : o.Valid)
    (hs : ∀ act thr idx ks, p = .batchConfig act thr idx ks → ks.length < 2 ^ 63) :
    VInv (a.deliverMessage o sender p).1 := by
  obtain ⟨F, h, e⟩ := deliverMessage_cases o a sender p
  rw [e]
  cases h with
  | refused => exact inv
  | vote _ _ hk hv hout => exact inv.vote ho hk hv hout
  | accept hp hck => exact VInv.of_accept (hs _ _ _ _ rfl) hp hck
  | _ => exact VInv_of_core inv rfl rfl

def Op.Sized : Op → Prop
  | .deliver tx => tx.Sized
  | _ => True

theorem stepWith_VInv {o : Order} {a : App} (inv : VInv a) {op : Op} (ho : o.Valid) (hs : op.Sized) :
    VInv (a.stepWith o op).1 := by
  rcases stepWith_cases o a op with h | ⟨c, h, -⟩ | ⟨cfgs, ht, hcore, h⟩ | ⟨s, c, n, p, rfl, h⟩ <;> rw [h]
  · exact inv
  · exact VInv_of_core inv rfl rfl
  · exact VInv_of_core inv hcore rfl
  · exact deliverMessage_VInv (a := { a with nonces := a.nonces ++ [(s, n)] }) (VInv_of_core inv rfl rfl) s p ho
      fun _ _ _ _ hp => by subst hp; exact hs

/-- the configuration `InitChain` builds from the genesis state -/
def genesisConfig (keypers : List Addr) (threshold : Nat) : BatchConfig :=
  { activation := 0, keypers := keypers, threshold := threshold, index := 0, started := false,
    validatorsUpdated := false }

theorem init_VInv {chainId : String} {keypers : List Addr} {threshold initialEon : Nat} {fork : Fork}
    {devMode : Bool} {validators : List (PubKey × Int)}
    (hvalid : (genesisConfig keypers threshold).valid = true)
    (hsized : keypers.length < 2 ^ 63) :
    VInv (App.init chainId keypers threshold initialEon fork devMode validators) :=
  ⟨nofun, List.nodup_nil, nofun, fun _ hpos => absurd hpos (Nat.lt_irrefl 0),
    valid_thrPos hvalid hsized⟩

theorem runWith_VInv {a : App} (inv : VInv a) (ops : List (Order × Op))
    (hv : ∀ p ∈ ops, p.1.Valid ∧ p.2.Sized) : VInv (a.runWith ops).1 :=
  runWith_invariant (P := VInv) (Q := fun p => p.1.Valid ∧ p.2.Sized) (fun _ _ _ h inv => stepWith_VInv inv h.1 h.2)
    inv hv

end Shutter.App
