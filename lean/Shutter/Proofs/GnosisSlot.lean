/-
What the Gnosis slot handler reads of `transaction_submitted_event` is a function of `queueOf q eon`, the eon's
rows in index order: the SQL window is an index range of it, the event count a fold over it.  The gas loop
`takeGas` cuts a prefix.  Equations for what the pointer operations do to one row of `tx_pointer`.
-/
import Shutter.Model.GnosisSlot
import Shutter.Proofs.Sort

namespace Shutter.GnosisSlot
open List Shutter.Sort

def gasSum (l : List Tx) : Nat := (l.map (·.gas)).sum

theorem gasSum_cons (t : Tx) (l : List Tx) : gasSum (t :: l) = t.gas + gasSum l := by
  simp [gasSum]

section takeGas
variable (L : Nat) (l : List Tx) (g n : Nat)

/-- The loop from any point: `g` gas used, `n` transactions taken so far, so that `1 - n` more are taken whatever
    their gas.  It takes a prefix that, but for those, fits the limit, and is maximal. -/
theorem takeGas_bound :
    ∃ k, k ≤ l.length ∧ takeGas L l g n = l.take k ∧ (l ≠ [] → 1 - n ≤ k) ∧
      (1 - n < k → g + gasSum (l.take k) ≤ L) ∧ (k < l.length → L < g + gasSum (l.take (k + 1))) := by
  fun_induction takeGas L l g n with
  | case1 => exact ⟨0, Nat.le_refl _, rfl, fun h => absurd rfl h, fun h => absurd h (Nat.not_lt_zero _),
      fun h => absurd h (Nat.lt_irrefl _)⟩
  | case2 t rest g n hc =>
    exact ⟨0, Nat.zero_le _, rfl, fun _ => Nat.le_of_eq (Nat.sub_eq_zero_of_le hc.2),
      fun h => absurd h (Nat.not_lt_zero _), fun _ => hc.1⟩
  | case3 t rest g n hc ih =>
    obtain ⟨k, hk, heq, -, h1, h2⟩ := ih
    refine ⟨k + 1, Nat.succ_le_succ hk, by rw [heq, take_succ_cons],
      fun _ => Nat.le_trans (Nat.sub_le 1 n) (Nat.le_add_left 1 k), fun hn => ?_, fun hlt => ?_⟩
    all_goals rw [take_succ_cons, gasSum_cons, ← Nat.add_assoc]
    · cases k with
      | zero => exact Nat.le_of_not_lt fun h => hc ⟨h, by omega⟩
      | succ k => exact h1 (by omega)
    · exact h2 (Nat.lt_of_succ_lt_succ hlt)

theorem takeGas_prefix : takeGas L l g n <+: l := by
  obtain ⟨k, -, heq, -⟩ := takeGas_bound L l g n
  exact heq ▸ take_prefix k l

/-- Cutting the list to `m` rows changes nothing once `m` more rows of at least `c` gas each would exceed the
    limit; with nothing taken yet the cut must leave a row, since the first one is taken whatever its gas. -/
theorem takeGas_take (c m : Nat) (hgas : ∀ t ∈ l, c ≤ t.gas) (hn : 0 < n ∨ 0 < m) (hm : L < g + m * c) :
    takeGas L (l.take m) g n = takeGas L l g n := by
  induction l generalizing m g n with
  | nil => rw [take_nil]
  | cons t rest ih =>
    cases m with
    | zero =>
      rw [Nat.zero_mul, Nat.add_zero] at hm
      simp only [take_zero, takeGas]
      rw [if_pos ⟨Nat.lt_of_lt_of_le hm (Nat.le_add_right g t.gas), hn.resolve_right (Nat.lt_irrefl 0)⟩]
    | succ m' =>
      have ht : c ≤ t.gas := hgas t mem_cons_self
      rw [take_succ_cons]
      unfold takeGas
      rw [ih (g + t.gas) (n + 1) m' (fun u hu => hgas u (mem_cons_of_mem _ hu)) (Or.inl (Nat.succ_pos n))
        (by rw [Nat.succ_mul] at hm; omega)]

end takeGas

def ofEon (eon : Int) (t : Tx) : Bool := decide (t.eon = eon)

def queueOf (q : List Tx) (eon : Int) : List Tx := isort txLe (q.filter (ofEon eon))

theorem mem_queueOf {q : List Tx} {eon : Int} {t : Tx} : t ∈ queueOf q eon ↔ t ∈ q ∧ t.eon = eon := by
  rw [queueOf, mem_isort, mem_filter, ofEon, decide_eq_true_eq]

def Consec : Nat → List Tx → Prop
  | _, [] => True
  | a, t :: rest => t.index = (a : Int) ∧ Consec (a + 1) rest

def Consec.dec : (a : Nat) → (l : List Tx) → Decidable (Consec a l)
  | _, [] => isTrue trivial
  | a, t :: rest =>
    match Consec.dec (a + 1) rest with
    | isTrue h => if h0 : t.index = (a : Int) then isTrue ⟨h0, h⟩ else isFalse (fun hh => h0 hh.1)
    | isFalse h => isFalse (fun hh => h hh.2)

instance (a : Nat) (l : List Tx) : Decidable (Consec a l) := Consec.dec a l

/-- the synced queue of the eon is complete: in index order its rows are numbered 0, 1, 2, … -/
def Contig (q : List Tx) (eon : Int) : Prop := Consec 0 (queueOf q eon)

instance (q : List Tx) (eon : Int) : Decidable (Contig q eon) := Consec.dec 0 (queueOf q eon)

/-- primary key `(index, eon)` -/
def Keyed (q : List Tx) : Prop := ∀ a ∈ q, ∀ b ∈ q, a.index = b.index → a.eon = b.eon → a = b

theorem txLe_trans (a b c : Tx) : txLe a b = true → txLe b c = true → txLe a c = true := by
  simp only [txLe, decide_eq_true_eq]; omega

theorem txLe_total (a b : Tx) : (txLe a b || txLe b a) = true := by
  simp only [txLe, Bool.or_eq_true, decide_eq_true_eq]; omega

theorem index_eq_of_txLe {a b : Tx} (h1 : txLe a b = true) (h2 : txLe b a = true) : a.index = b.index := by
  simp only [txLe, decide_eq_true_eq] at h1 h2; omega

def maxStep (acc : Int) (t : Tx) : Int := if acc < t.index + 1 then t.index + 1 else acc

theorem maxStep_eq_max (acc : Int) (t : Tx) : maxStep acc t = max acc (t.index + 1) := by
  unfold maxStep; omega

theorem maxStep_comm (z : Int) (x y : Tx) : maxStep (maxStep z x) y = maxStep (maxStep z y) x := by
  simp only [maxStep_eq_max, Int.max_assoc, Int.max_comm (x.index + 1)]

section Consec
variable {a : Nat} {l : List Tx} (h : Consec a l)
include h

theorem Consec.filter_ge (p : Nat) : l.filter (fun t => decide ((p : Int) ≤ t.index)) = l.drop (p - a) := by
  induction l generalizing a with
  | nil => exact drop_nil.symm
  | cons t rest ih =>
    rw [filter_cons, ih h.2, h.1]
    by_cases hp : p ≤ a
    · rw [if_pos (by simpa using hp), Nat.sub_eq_zero_of_le hp, Nat.sub_eq_zero_of_le (Nat.le_succ_of_le hp)]
      rfl
    · rw [if_neg (by simpa using hp), show p - a = (p - (a + 1)) + 1 by omega, drop_succ_cons]

theorem Consec.filter_lt (c : Nat) : l.filter (fun t => decide (t.index < (c : Int))) = l.take (c - a) := by
  induction l generalizing a with
  | nil => exact take_nil.symm
  | cons t rest ih =>
    rw [filter_cons, ih h.2, h.1]
    by_cases hc : c ≤ a
    · rw [if_neg (by simpa using hc), Nat.sub_eq_zero_of_le hc, Nat.sub_eq_zero_of_le (Nat.le_succ_of_le hc)]
      rfl
    · rw [if_pos (by simpa using hc), show c - a = (c - (a + 1)) + 1 by omega, take_succ_cons]

theorem Consec.take (k : Nat) : Consec a (l.take k) := by
  induction l generalizing a k with
  | nil => simp [Consec]
  | cons t rest ih =>
    cases k with
    | zero => simp [Consec]
    | succ k => rw [take_succ_cons]; exact ⟨h.1, ih h.2 k⟩

theorem Consec.foldl_max : l.foldl maxStep (a : Int) = ((a + l.length : Nat) : Int) := by
  induction l generalizing a with
  | nil => rfl
  | cons t rest ih =>
    -- the step takes `a` to `a + 1`: the index of `t` is `a`
    have hstep : maxStep (a : Int) t = ((a + 1 : Nat) : Int) := by
      rw [maxStep, h.1, if_pos (Int.lt_succ _)]
      rfl
    rw [foldl_cons, hstep, ih h.2, length_cons, Nat.add_right_comm, Nat.add_assoc]

end Consec

section queue
variable (q : List Tx) (eon : Int)

theorem window_queueOf (ptr : Int) (limit : Nat) :
    window q eon ptr limit =
      (((queueOf q eon).filter (fun t => decide (t.index < ptr + limit))).filter
        (fun t => decide (ptr ≤ t.index))).take limit := by
  unfold window queueOf
  rw [← isort_filter txLe txLe_trans txLe_total, ← isort_filter txLe txLe_trans txLe_total, filter_filter, filter_filter]
  congr 3
  funext t
  exact (Bool.and_assoc _ _ _).trans (Bool.and_comm _ _)

theorem window_contig (ptr limit : Nat) (hc : Contig q eon) :
    window q eon ptr limit = ((queueOf q eon).drop ptr).take limit := by
  -- the two filters are `take (ptr + limit)` and `drop ptr`; then both sides are brought to
  -- `((queueOf q eon).take (ptr + limit)).drop ptr` (`take_drop : take i (drop j l) = drop j (take (j + i) l)`)
  rw [window_queueOf, ← Int.natCast_add,
    Consec.filter_lt hc (ptr + limit), Consec.filter_ge (Consec.take hc _) ptr]
  rw [Nat.sub_zero, Nat.sub_zero, take_drop, take_take, Nat.min_self, take_drop]

theorem eventCount_eq : eventCount q eon = (q.filter (ofEon eon)).foldl maxStep 0 := rfl

theorem eventCount_contig (hc : Contig q eon) : eventCount q eon = ((queueOf q eon).length : Int) := by
  have hq : (q.filter (ofEon eon)).foldl maxStep 0 = (queueOf q eon).foldl maxStep 0 :=
    Perm.foldl_eq' (isort_perm _ _).symm (fun x _ y _ z => maxStep_comm z x y) 0
  rw [eventCount_eq, hq]
  simpa using Consec.foldl_max hc

end queue

section perm
variable {q q' : List Tx} (hp : q ~ q')
include hp

/-- the one place where the primary key is needed: it makes the sorted order of the eon's rows unique -/
theorem queueOf_perm (hk : Keyed q) (eon : Int) : queueOf q eon = queueOf q' eon :=
  isort_unique txLe txLe_trans txLe_total ((isort_perm _ _).trans (hp.filter _).symm) (isort_pairwise txLe txLe_trans txLe_total _)
    fun a ha b hb h1 h2 =>
      have ha' := mem_filter.1 ha
      have hb' := mem_filter.1 hb
      hk a ha'.1 b hb'.1 (index_eq_of_txLe h1 h2) ((of_decide_eq_true ha'.2).trans (of_decide_eq_true hb'.2).symm)

theorem window_perm (hk : Keyed q) (eon ptr : Int) (limit : Nat) :
    window q eon ptr limit = window q' eon ptr limit := by
  rw [window_queueOf, window_queueOf, queueOf_perm hp hk]

theorem eventCount_perm (eon : Int) : eventCount q eon = eventCount q' eon := by
  rw [eventCount_eq, eventCount_eq]
  exact Perm.foldl_eq' (hp.filter _) (fun x _ y _ z => maxStep_comm z x y) 0

end perm

theorem identities_eq_some {cfg : Cfg} {q : List Tx} {eon ptr : Int} {slot : Nat} {ids : List Bytes}
    (h : identities cfg q eon ptr slot = some ids) :
    ids = sortIds (slotId slot :: (selected cfg q eon ptr).map Tx.id) := by
  unfold identities at h
  split at h
  · cases h
  · exact (Option.some.inj h).symm

section pointer
variable (cfg : Cfg) (s : State)

theorem getTxPointer_none {e : Int} (h : s.ptrs.get? e = none) :
    getTxPointer cfg s e = (0, { s with ptrs := s.ptrs.insert e { value := 0, age := some 0 } }) := by
  rw [getTxPointer, h]

theorem getTxPointer_some {e : Int} {p : Ptr} (h : s.ptrs.get? e = some p) :
    getTxPointer cfg s e = (if outdated cfg p then eventCount s.queue e else p.value, s) := by
  rw [getTxPointer, h]
  dsimp only
  split <;> rfl

theorem getTxPointer_queue (e : Int) : (getTxPointer cfg s e).2.queue = s.queue := by
  cases h : s.ptrs.get? e with
  | none => rw [getTxPointer_none cfg s h]
  | some p => rw [getTxPointer_some cfg s h]

theorem get?_getTxPointer (e : Int) {eon : Int} {p : Ptr} (h : s.ptrs.get? eon = some p) :
    (getTxPointer cfg s e).2.ptrs.get? eon = some p := by
  fun_cases getTxPointer cfg s e with
  | case1 hg =>
    have hne : e ≠ eon := fun he => by rw [he, h] at hg; cases hg
    exact (AMap.get?_insert_ne _ _ hne).trans h
  | case2 => exact h
  | case3 => exact h

theorem get?_incAge (e eon : Int) :
    (incAge s e).ptrs.get? eon =
      if e = eon then (s.ptrs.get? eon).map (fun p => { p with age := p.age.map (· + 1) }) else s.ptrs.get? eon := by
  fun_cases incAge s e with
  | case1 hg =>
    split
    · next he => rw [← he, hg, Option.map_none]
    · rfl
  | case2 p hg =>
    split
    · next he =>
      rw [← he, hg, Option.map_some]
      exact AMap.get?_insert_self _ _ _
    · next he => exact AMap.get?_insert_ne _ _ he

variable (eE eK : Int) (slot : Nat)

theorem trigger_ptrs : (trigger cfg s eE eK slot).2.ptrs = (getTxPointer cfg s eE).2.ptrs := by
  fun_cases trigger cfg s eE eK slot with
  | case1 ptr s1 hp _ => rw [hp]
  | case2 ptr s1 hp ids _ => rw [hp]

theorem trigger_fst :
    (trigger cfg s eE eK slot).1 =
      (identities cfg s.queue eK (getTxPointer cfg s eE).1 slot).map (fun ids => ((getTxPointer cfg s eE).1, ids)) := by
  rw [← getTxPointer_queue cfg s eE]
  fun_cases trigger cfg s eE eK slot with
  | case1 ptr s1 hp hi => simp only [hp, hi, Option.map_none]
  | case2 ptr s1 hp ids hi => simp only [hp, hi, Option.map_some]

end pointer

end Shutter.GnosisSlot
