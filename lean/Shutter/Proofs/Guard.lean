/-
A validator is a cascade of guards, `if c then reject else …`, ending in a verdict.  It accepts exactly when it gets
past every guard; the lemma peels one guard off, so a proof names the guards it passes instead of splitting the whole
cascade.  Where guards are negations (`if a ≠ b then reject else …`) give it to `simp` as `↓ite_left_eq_iff` (`↓`:
before `simp` turns the guard round by `ite_not` and tries the lemma on the wrong branch).
-/

namespace Shutter

variable {α : Type} {c : Prop} [Decidable c] {r a v : α}

theorem ite_left_eq_iff (h : r ≠ a) : (if c then r else v) = a ↔ ¬ c ∧ v = a := by
  by_cases hc : c <;> simp [hc, h]

end Shutter
