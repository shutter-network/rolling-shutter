/-
Tables with a primary key that is a function `key` of the row.  The lemmas are stated for the unfolded form
`l.Pairwise (fun a b => key a ≠ key b)`, so a predicate defined as that form is passed as it is; one written as
"same key, same row", or with a composite key as `¬ (a.id = b.id ∧ a.sender = b.sender)`, is not.  `Grows`: such a
table under inserts and updates that keep every key and never clear a flag.
-/
import Shutter.Proofs.List

namespace Shutter.Keyed
open List

variable {α κ : Type} {key : α → κ}

theorem map {l : List α} (f : α → α) (hf : ∀ x, key (f x) = key x)
    (h : l.Pairwise (fun a b => key a ≠ key b)) : (l.map f).Pairwise (fun a b => key a ≠ key b) :=
  h.map f fun a b hab => by rwa [hf, hf]

/-- `INSERT … ON CONFLICT (key) DO UPDATE` -/
theorem upsert [DecidableEq κ] {l : List α} (r : α) (h : l.Pairwise (fun a b => key a ≠ key b)) :
    (if l.any (fun x => key x = key r) then l.map (fun x => if key x = key r then r else x) else l ++ [r]).Pairwise
      (fun a b => key a ≠ key b) := by
  split
  · exact map _ (fun x => by split <;> simp [*]) h
  · next hno => exact pairwise_concat h (fun x hx hk => hno (any_eq_true.2 ⟨x, hx, decide_eq_true hk⟩))

theorem find?_eq_some_iff [DecidableEq κ] {l : List α} (h : l.Pairwise (fun a b => key a ≠ key b)) (k : κ) (x : α) :
    l.find? (fun r => key r = k) = some x ↔ x ∈ l ∧ key x = k := by
  refine ⟨fun hf => ⟨mem_of_find?_eq_some hf, by simpa using find?_some hf⟩, fun ⟨hx, hkx⟩ => ?_⟩
  obtain ⟨as, bs, rfl⟩ := append_of_mem hx
  refine find?_eq_some_iff_append.2 ⟨decide_eq_true hkx, as, bs, rfl, fun a ha => ?_⟩
  have hne := (pairwise_append.1 h).2.2 a ha x mem_cons_self
  simpa [hkx] using hne

theorem findSome?_eq_find?_bind [DecidableEq κ] {β : Type} {l : List α} (h : l.Pairwise (fun a b => key a ≠ key b)) (k : κ)
    (g : α → Option β) (hg : ∀ r ∈ l, key r ≠ k → g r = none) :
    l.findSome? g = (l.find? (fun r => key r = k)).bind g := by
  fun_induction find? (fun r => key r = k) l with
  | case1 => rfl
  | case2 a rest ha =>
    have ha : key a = k := of_decide_eq_true ha
    have hrest : rest.findSome? g = none :=
      findSome?_eq_none_iff.2 fun x hx => hg x (mem_cons_of_mem _ hx) (ha ▸ ((pairwise_cons.1 h).1 x hx).symm)
    rw [findSome?_cons, hrest, Option.bind_some]
    cases g a <;> rfl
  | case3 a rest ha ih =>
    rw [findSome?_cons, hg a mem_cons_self (of_decide_eq_false ha)]
    exact ih (pairwise_cons.1 h).2 (fun r hr => hg r (mem_cons_of_mem _ hr))

/-- no row is deleted, no key changes, no flag `done` is cleared -/
inductive Grows (key : α → κ) (done : α → Bool) : List α → List α → Prop
  | same {l : List α} : Grows key done l l
  | insert {l : List α} {r : α} : (∀ x ∈ l, key x ≠ key r) → Grows key done l (l ++ [r])
  | update {l : List α} {f : α → α} : (∀ x, key (f x) = key x) → (∀ x, done x = true → done (f x) = true) →
      Grows key done l (l.map f)

/-- `update` for a map that changes only the elements satisfying `p`; the instance is implicit, as in `if_pos`: read
    off the goal, not searched for -/
theorem Grows.update_if {done : α → Bool} {l : List α} {p : α → Prop} {_ : DecidablePred p} {g : α → α}
    (hg : ∀ x, key (g x) = key x) (hdone : ∀ x, done x = true → done (g x) = true) :
    Grows key done l (l.map fun x => if p x then g x else x) :=
  .update (fun x => iteInduction (motive := (key · = key x)) (fun _ => hg x) fun _ => rfl)
    fun x hd => iteInduction (motive := (done · = true)) (fun _ => hdone x hd) fun _ => hd

theorem Grows.keyed {done : α → Bool} {l l' : List α} (g : Grows key done l l')
    (h : l.Pairwise (fun a b => key a ≠ key b)) : l'.Pairwise (fun a b => key a ≠ key b) := by
  cases g with
  | same => exact h
  | @insert r hr => exact pairwise_concat h hr
  | @update f hf _ => exact map f hf h

theorem Grows.done {done : α → Bool} {l l' : List α} (g : Grows key done l l') {r : α} (hr : r ∈ l)
    (hd : done r = true) : ∃ r' ∈ l', key r' = key r ∧ done r' = true := by
  cases g with
  | same => exact ⟨r, hr, rfl, hd⟩
  | insert _ => exact ⟨r, mem_append_left _ hr, rfl, hd⟩
  | @update f hf hdone => exact ⟨f r, mem_map_of_mem hr, hf r, hdone r hd⟩

theorem Grows.all_done {done : α → Bool} {l l' : List α} (g : Grows key done l l') {k : κ}
    (hex : ∃ r ∈ l, key r = k) (hall : ∀ r ∈ l, key r = k → done r = true) :
    (∃ r ∈ l', key r = k) ∧ ∀ r ∈ l', key r = k → done r = true := by
  obtain ⟨r0, hr0, hk0⟩ := hex
  cases g with
  | same => exact ⟨⟨r0, hr0, hk0⟩, hall⟩
  | @insert r hr =>
    refine ⟨⟨r0, mem_append_left _ hr0, hk0⟩, fun x hx hk => ?_⟩
    rcases mem_append.1 hx with hx | hx
    · exact hall x hx hk
    · -- the inserted row has a new key, and `k` is in the table
      rw [mem_singleton.1 hx] at hk
      exact absurd (hk0.trans hk.symm) (hr r0 hr0)
  | @update f hf hdone =>
    refine ⟨⟨f r0, mem_map_of_mem hr0, (hf r0).trans hk0⟩, fun x hx hk => ?_⟩
    obtain ⟨y, hy, rfl⟩ := mem_map.1 hx
    exact hdone y (hall y hy ((hf y).symm.trans hk))

end Shutter.Keyed
