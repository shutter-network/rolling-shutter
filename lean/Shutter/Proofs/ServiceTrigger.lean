/-
The service-trigger model: what `resolve` returns, how rows are grouped into triggers, how an operation changes the
two registration tables, and where the entries of `emitted` come from.
-/
import Shutter.Model.ServiceTrigger
import Shutter.Proofs.Sort
import Shutter.Proofs.Keyed
import Shutter.Proofs.KeepMax

namespace Shutter.ServiceTrigger
open List Shutter.Sort

theorem latestEon_spec {eons : List EonRow} {c : Int} {e : EonRow} (h : latestEon eons c = some e) :
    e ∈ eons ∧ e.config = c ∧ ∀ e' ∈ eons, e'.config = c → e'.eon ≤ e.eon := by
  -- the model's step function is `keepMax` written out
  have hfold : latestEon eons c = eons.foldl (keepMax (fun e : EonRow => e.config = c) id EonRow.eon) none := by
    unfold latestEon
    congr
    funext acc e
    cases acc <;> rfl
  obtain ⟨⟨x, hx, hc, rfl⟩, hmax⟩ := foldl_keepMax_none _ _ _ (hfold ▸ h)
  exact ⟨hx, hc, hmax⟩

/-- the conjuncts are `Properties.C02.Decryptable s c e` -/
theorem resolve_spec {s : State} {c : Int} {e : EonRow} (h : resolve s c = some e) :
    e ∈ s.eons ∧ e.config = c ∧ (∀ e' ∈ s.eons, e'.config = c → e'.eon ≤ e.eon) ∧
      (∃ cfg ∈ s.configs, cfg.config = wrap32 c ∧ cfg.member = true) ∧
      (∃ d ∈ s.dkgs, d.eon = e.eon ∧ d.success = true) := by
  revert h
  fun_cases resolve s c with
  | case5 e0 hl cfg hc hm d hd hs =>
    rintro ⟨⟩
    obtain ⟨h1, h2, h3⟩ := latestEon_spec hl
    exact ⟨h1, h2, h3, ⟨cfg, mem_of_find?_eq_some hc, by simpa using find?_some hc, by simpa using hm⟩,
      ⟨d, mem_of_find?_eq_some hd, by simpa using find?_some hd, hs⟩⟩
  | _ => nofun

theorem mem_firsts {α : Type} (f : α → Int) (l : List α) (x : Int) : x ∈ firsts f l → ∃ a ∈ l, f a = x := by
  fun_induction firsts f l with
  | case1 => nofun
  | case2 a rest ih =>
    intro h
    rcases mem_cons.1 h with rfl | h
    · exact ⟨a, mem_cons_self, rfl⟩
    · obtain ⟨b, hb, e⟩ := ih (mem_filter.1 h).1
      exact ⟨b, mem_cons_of_mem _ hb, e⟩

/-- the `filterMap` of `ht` is the common body of `groupTime` and `eventTriggers` -/
theorem group_spec {ρ : Type} (s : State) (eon : ρ → Int) (ident : ρ → Bytes) (rows : List ρ) (t : Trigger)
    (ht : t ∈ (firsts eon rows).filterMap (fun c =>
      match resolve s c with
      | none => none
      | some e => some { block := e.activation, ids := sortIds ((rows.filter (fun r => eon r = c)).map ident) })) :
    ∃ c e, resolve s c = some e ∧ t.block = e.activation ∧
      t.ids.Pairwise (fun a b => bytesLe a b = true) ∧ t.ids ~ (rows.filter (fun r => eon r = c)).map ident := by
  obtain ⟨c, _, hc⟩ := mem_filterMap.1 ht
  cases hr : resolve s c with
  | none => simp [hr] at hc
  | some e =>
    simp only [hr, Option.some.injEq] at hc
    subst hc
    exact ⟨c, e, hr, rfl, sortIds_pairwise _, sortIds_perm _⟩

theorem eventTriggers_spec {s : State} {t : Trigger} (ht : t ∈ eventTriggers s) :
    ∃ c e, resolve s c = some e ∧ t.block = e.activation ∧ t.ids.Pairwise (fun a b => bytesLe a b = true) ∧
      t.ids ~ ((undecryptedFired s).filter (fun f => f.eon = c)).map (·.identity) :=
  group_spec s Fired.eon Fired.identity (undecryptedFired s) t ht

theorem mem_due {s : State} {last now : Int} {r : Reg} :
    r ∈ due s last now ↔ r ∈ s.regs ∧ last ≤ r.timestamp ∧ r.timestamp ≤ now ∧ r.decrypted = false := by
  simp [due, mem_isort, and_assoc]

theorem mem_undecryptedFired {s : State} {f : Fired} : f ∈ undecryptedFired s ↔ f ∈ s.fired ∧
    (∃ r ∈ s.trigRegs, r.eon = f.eon ∧ r.identity = f.identity) ∧
    ∀ r ∈ s.trigRegs, r.eon = f.eon → r.identity = f.identity → r.decrypted = false := by
  simp [undecryptedFired]

theorem timeTriggers_spec {s : State} {now number : Int} {t : Trigger} (h : t ∈ (timeTriggers s now number).2) :
    ∃ c e, resolve s c = some e ∧ t.block = e.activation ∧ t.ids.Pairwise (fun a b => bytesLe a b = true) ∧
      t.ids ~ ((((due s (s.mark.getD 0) now).filter (fun r => shouldTrigger s r now number)).filter
        (fun r => (resolve s r.eon).isSome)).filter (fun r => r.eon = c)).map (·.identity) := by
  have hg : t ∈ groupTime s ((due s (s.mark.getD 0) now).filter (fun r => shouldTrigger s r now number)) := by
    revert h
    fun_cases timeTriggers s now number with
    | case1 => nofun
    | case2 => exact id
  exact group_spec s Reg.eon Reg.identity _ t hg

/-- primary key of `identity_registered_event` -/
def KeyUnique (s : State) : Prop := s.regs.Pairwise (fun a b => a.key ≠ b.key)

/-- vacuous when no row has key `k`: its users add `∃ r ∈ s.regs, r.key = k` -/
def KeyDone (k : Nat) (s : State) : Prop := ∀ r ∈ s.regs, r.key = k → r.decrypted = true

def TrigDone (eon : Int) (id : Bytes) (s : State) : Prop :=
  ∃ r ∈ s.trigRegs, r.eon = eon ∧ r.identity = id ∧ r.decrypted = true

theorem step_grows (s : State) (op : Op) :
    Keyed.Grows Reg.key Reg.decrypted s.regs (step s op).regs ∧
      Keyed.Grows (fun r : TrigReg => (r.eon, r.identity)) TrigReg.decrypted s.trigRegs (step s op).trigRegs := by
  cases op with
  | register k e i t =>
    show Keyed.Grows _ _ _ (register s k e i t).regs ∧ Keyed.Grows _ _ _ (register s k e i t).trigRegs
    fun_cases register s k e i t with
    | case1 _ => exact ⟨.update_if (fun _ => rfl) fun _ hr => hr, .same⟩
    | case2 hno => exact ⟨.insert fun x hx hk => hno (any_eq_true.2 ⟨x, hx, decide_eq_true hk⟩), .same⟩
  | trigRegister e i =>
    show Keyed.Grows _ _ _ (trigRegister s e i).regs ∧ Keyed.Grows _ _ _ (trigRegister s e i).trigRegs
    fun_cases trigRegister s e i with
    | case1 _ => exact ⟨.same, .same⟩
    | case2 hno =>
      exact ⟨.same, .insert fun x hx hk => hno (any_eq_true.2
        ⟨x, hx, by simpa only [Bool.and_eq_true, decide_eq_true_eq] using Prod.mk.inj hk⟩)⟩
  | released e ids =>
    exact ⟨.update_if (fun _ => rfl) fun _ _ => rfl, .update_if (fun _ => rfl) fun _ _ => rfl⟩
  | fire e i =>
    show Keyed.Grows _ _ _ (fire s e i).regs ∧ Keyed.Grows _ _ _ (fire s e i).trigRegs
    fun_cases fire s e i <;> exact ⟨.same, .same⟩
  | _ => exact ⟨.same, .same⟩

theorem step_keyUnique (s : State) (op : Op) (h : KeyUnique s) : KeyUnique (step s op) :=
  (step_grows s op).1.keyed h

theorem step_trigDone (eon : Int) (id : Bytes) (s : State) (op : Op) (h : TrigDone eon id s) :
    TrigDone eon id (step s op) := by
  obtain ⟨r, hr, rfl, rfl, hd⟩ := h
  obtain ⟨r', hr', hk, hd'⟩ := (step_grows s op).2.done hr hd
  exact ⟨r', hr', congrArg Prod.fst hk, congrArg Prod.snd hk, hd'⟩

theorem step_keyDone (k : Nat) (s : State) (op : Op) (h : (∃ r ∈ s.regs, r.key = k) ∧ KeyDone k s) :
    (∃ r ∈ (step s op).regs, r.key = k) ∧ KeyDone k (step s op) :=
  (step_grows s op).1.all_done h.1 h.2

theorem exists_of_mem_emitted {s0 : State} {ops : List Op} {x : State × Int × Int × List Trigger × List Trigger}
    (hx : x ∈ emitted s0 ops) : ∃ pre now number ev,
      x = (run s0 pre, now, number, (onBlock (run s0 pre) now number ev).2.1, (onBlock (run s0 pre) now number ev).2.2) := by
  fun_induction emitted s0 ops with
  | case1 => cases hx
  | case2 s rest now number ev ih =>
    rcases mem_cons.1 hx with h | hx
    · exact ⟨[], now, number, ev, h⟩
    · obtain ⟨pre, h⟩ := ih hx
      exact ⟨.block now number ev :: pre, h⟩
  | case3 s op rest _ ih =>
    obtain ⟨pre, h⟩ := ih hx
    exact ⟨op :: pre, h⟩

theorem emitted_inv (P : State → Prop) (hstep : ∀ s op, P s → P (step s op)) (s0 : State) (ops : List Op)
    (h0 : P s0) : ∀ x ∈ emitted s0 ops, P x.1 := fun x hx => by
  obtain ⟨pre, _, _, _, rfl⟩ := exists_of_mem_emitted hx
  exact foldlRecOn pre step h0 fun s hs op _ => hstep s op hs

end Shutter.ServiceTrigger
