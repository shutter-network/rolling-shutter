/-
What one ABCI call can do to the shuttermint state.  No payload handler reads the executed nonces or the mempool
bookkeeping, so `Effect` describes `deliverMessage` in all states `a.withRest ns c` at once.  What a call leaves alone
(`deliverMessage_keeps`), the invariants and the outsider theorem are `cases` on it at `a.nonces`, `a.checkTx`; the
commutations with `setNonces` and `withCheck` compare it at two values of `ns`, `c`.  `stepWith_cases` is the same
for a whole call.
-/
import Shutter.Model.App
import Shutter.Proofs.Guard

namespace Shutter.App
open Shutter Shutter.App.App

/-- the part of a configuration fixed at acceptance (everything but the two progress flags) -/
def BatchConfig.core (c : BatchConfig) : Nat × List Addr × Nat × Nat :=
  (c.activation, c.keypers, c.threshold, c.index)

theorem BatchConfig.keypers_of_core {c c' : BatchConfig} (h : c.core = c'.core) : c.keypers = c'.keypers :=
  congrArg (·.2.1) h

theorem BatchConfig.threshold_of_core {c c' : BatchConfig} (h : c.core = c'.core) : c.threshold = c'.threshold :=
  congrArg (·.2.2.1) h

theorem map_keypers_of_core {l l' : List BatchConfig} (h : l'.map BatchConfig.core = l.map BatchConfig.core) :
    l'.map (·.keypers) = l.map (·.keypers) := by
  have := congrArg (List.map (·.2.1)) h
  rwa [List.map_map, List.map_map] at this

theorem isKeyper_eq_of_core {a a' : App}
    (h : a'.configs.map BatchConfig.core = a.configs.map BatchConfig.core) (k : Addr) :
    a'.isKeyper k = a.isKeyper k := by
  have e : ∀ l : List BatchConfig, l.any (fun c => c.isKeyper k) = (l.map (·.keypers)).any (·.contains k) :=
    fun l => by rw [List.any_map]; rfl
  unfold App.isKeyper
  rw [e, e, map_keypers_of_core h]

theorem lastConfig_core_of_core {a a' : App}
    (h : a'.configs.map BatchConfig.core = a.configs.map BatchConfig.core) :
    a'.lastConfig.core = a.lastConfig.core := by
  have h := congrArg List.getLast? h
  rw [List.getLast?_map, List.getLast?_map] at h
  unfold App.lastConfig
  -- what survives: both lists non-empty, and the cores of their last elements agree
  cases h₁ : a'.configs.getLast? <;> cases h₂ : a.configs.getLast? <;> simp [h₁, h₂] at h ⊢
  exact h

theorem lastConfig_append (a : App) (bc : BatchConfig) (cs : List BatchConfig) :
    App.lastConfig { a with configs := cs ++ [bc] } = bc := by
  simp [App.lastConfig]

theorem isKeyper_append (a : App) (bc : BatchConfig) (k : Addr) :
    App.isKeyper { a with configs := a.configs ++ [bc] } k = (a.isKeyper k || bc.isKeyper k) := by
  simp [App.isKeyper, List.any_append]

theorem isKeyper_of_lastConfig {a : App} {s : Addr} (h : a.lastConfig.isKeyper s = true) : a.isKeyper s = true := by
  unfold App.lastConfig at h
  cases hl : a.configs.getLast? with
  | none => rw [hl] at h; cases h
  | some c =>
    rw [hl] at h
    exact List.any_eq_true.2 ⟨c, List.mem_of_getLast? hl, h⟩

theorem toInt64_of_lt {n : Nat} (h : n < 2 ^ 63) : toInt64 n = (n : Int) := by
  unfold toInt64
  have h1 : n % 2 ^ 64 = n := Nat.mod_eq_of_lt (by omega)
  simp only [h1]
  simp [h]

/-- `hs`: sizes are physically bounded (a message cannot carry 2^63 addresses) -/
theorem valid_thrPos {c : BatchConfig} (hv : c.valid = true) (hs : c.keypers.length < 2 ^ 63) :
    0 < toInt64 c.threshold := by
  unfold BatchConfig.valid at hv
  simp only [Bool.and_eq_true, bne_iff_ne, ne_eq, decide_eq_true_eq] at hv
  rw [toInt64_of_lt (by omega)]
  omega

structure Frame (a a' : App) : Prop where
  configs : a'.configs = a.configs
  configVoting : a'.configVoting = a.configVoting
  eonCounter : a'.eonCounter = a.eonCounter

theorem Frame.refl (a : App) : Frame a a := ⟨rfl, rfl, rfl⟩

def Event.isEonStarted : Event → Bool
  | .eonStarted _ _ _ => true
  | _ => false

def Resp.refused (r : Resp) : Prop := r.code ≠ 0 ∧ r.events = []

theorem Resp.refused_of {r : Resp} (h : r = errResp ∨ r = seenResp) : r.refused := by
  rcases h with rfl | rfl
  · exact ⟨by decide, rfl⟩
  · exact ⟨by decide, rfl⟩

theorem applyReg_frame (a : App) (eon : Nat) (r : Reg) (ev : Event) :
    (a.applyReg eon r ev).1.configs = a.configs ∧
    (a.applyReg eon r ev).1.configVoting = a.configVoting ∧
    (a.applyReg eon r ev).1.eonCounter = a.eonCounter ∧
    (a.applyReg eon r ev).1.nonces = a.nonces ∧
    (a.applyReg eon r ev).1.identities = a.identities ∧
    (a.applyReg eon r ev).1.blocksSeen = a.blocksSeen := by
  cases r <;> exact ⟨rfl, rfl, rfl, rfl, rfl, rfl⟩

theorem applyReg_noEon (a : App) (eon : Nat) (r : Reg) (ev : Event) (h : ev.isEonStarted = false) :
    ∀ e ∈ (a.applyReg eon r ev).2.events, e.isEonStarted = false := by
  cases r <;> simp [applyReg, errResp, seenResp, okResp, h]

theorem registerPolyEval_go_not_ok (d : DKG) (s : Addr) (rs : List Addr) (d' : DKG) :
    registerPolyEval.go d s rs ≠ some (.ok d') := by
  fun_induction registerPolyEval.go d s rs with
  | case5 r rest _ _ _ ih => exact ih  -- past the three guards: `go rest`
  | _ => nofun

section
variable {d d' : DKG} {s : Addr} {eon : Nat}

theorem registerPolyEval_ok {rs : List Addr} (h : registerPolyEval d s eon rs = .ok d') :
    d.config.isKeyper s = true ∧ d'.config = d.config := by
  revert h
  fun_cases registerPolyEval d s eon rs with
  | case1 | case2 => nofun
  | case3 _ _ r hg => exact fun h => absurd (h ▸ hg) (registerPolyEval_go_not_ok d s rs d')
  | case4 _ hk _ => rintro ⟨⟩; exact ⟨by simpa using hk, rfl⟩

theorem registerPolyCommitment_ok (h : registerPolyCommitment d s eon = .ok d') :
    d.config.isKeyper s = true ∧ d'.config = d.config := by
  simp only [registerPolyCommitment, ite_left_eq_iff, ne_eq, reduceCtorEq, not_false_eq_true] at h
  obtain ⟨-, hk, -, h⟩ := h
  cases h; exact ⟨by simpa using hk, rfl⟩

theorem registerAccusation_ok {as : List Addr} (h : registerAccusation d s eon as = .ok d') :
    d.config.isKeyper s = true ∧ d'.config = d.config := by
  simp only [registerAccusation, ite_left_eq_iff, ne_eq, reduceCtorEq, not_false_eq_true] at h
  obtain ⟨-, hk, -, -, h⟩ := h
  cases h; exact ⟨by simpa using hk, rfl⟩

theorem registerApology_ok {as : List Addr} (h : registerApology d s eon as = .ok d') :
    d.config.isKeyper s = true ∧ d'.config = d.config := by
  simp only [registerApology, ite_left_eq_iff, ne_eq, reduceCtorEq, not_false_eq_true] at h
  obtain ⟨-, hk, -, -, h⟩ := h
  cases h; exact ⟨by simpa using hk, rfl⟩

end

abbrev App.withRest (a : App) (ns : List (Addr × Nat)) (c : CheckTxState) : App := { a with nonces := ns, checkTx := c }

section
variable (a : App) (ns : List (Addr × Nat)) (c : CheckTxState)
theorem withRest_isKeyper (s : Addr) : (a.withRest ns c).isKeyper s = a.isKeyper s := rfl
theorem withRest_checkInForkActive : (a.withRest ns c).checkInForkActive = a.checkInForkActive := rfl
theorem withRest_lastConfig : (a.withRest ns c).lastConfig = a.lastConfig := rfl
theorem withRest_checkConfig (bc : BatchConfig) : (a.withRest ns c).checkConfig bc = a.checkConfig bc := rfl
end

def Payload.isDkgMsg : Payload → Bool
  | .polyEval .. | .polyCommitment .. | .accusation .. | .apology .. => true
  | _ => false

/-- The outcomes payload `p` of sender `s` can have, each a function `F` from `ns`, `c` to the result in the state
    `a.withRest ns c` (`deliverMessage_effect`: the handler is one of them).  `register` is the outcome of the four
    DKG-message payloads; its `hp` lets `cases` close that case by evaluation when the payload is of another kind. -/
inductive Effect (o : Order) (a : App) (s : Addr) : Payload → (List (Addr × Nat) → CheckTxState → App × Resp) → Prop
  | refused {p r} (hr : r = errResp ∨ r = seenResp) : Effect o a s p fun ns c => (a.withRest ns c, r)
  | blockSeen {b m} (hk : a.isKeyper s = true) :
      Effect o a s (.blockSeen b) fun ns c => ({ a.withRest ns c with blocksSeen := m }, okResp [])
  | checkIn {k ok e} (hk : a.isKeyper s = true) (hlen : k.len = 32) (hok : ok = true) :
      Effect o a s (.checkIn k ok e) fun ns c =>
        ({ a.withRest ns c with identities := a.identities.insert s k.val }, okResp [.checkIn s e])
  | register {p eon d d' ev} (hp : p.isDkgMsg = true) (hd : a.dkgs.get? eon = some d)
      (hk : d.config.isKeyper s = true) (hc : d'.config = d.config) :
      Effect o a s p fun ns c => ({ a.withRest ns c with dkgs := a.dkgs.insert eon d' }, okResp [ev])
  | dkgVote {eon success d voting} (hd : a.dkgs.get? eon = some d) (hk : d.config.isKeyper s = true) :
      Effect o a s (.dkgResult eon success) fun ns c =>
        ({ a.withRest ns c with dkgs := a.dkgs.insert eon { d with success := voting } }, okResp [])
  | restart {eon success d voting} (hd : a.dkgs.get? eon = some d) (hk : d.config.isKeyper s = true)
      (hv : d.success.addVote s success = some voting)
      (hout : voting.outcome o (toInt64 d.config.threshold) = some false)
      (hnew : ¬ eon < a.eonCounter) :
      Effect o a s (.dkgResult eon success) fun ns c =>
        ((App.startDKG { a.withRest ns c with dkgs := a.dkgs.insert eon { d with success := voting } } d.config).1,
          okResp [.eonStarted ((a.eonCounter + 1) % 2 ^ 64) d.config.activation d.config.index])
  | vote {act thr idx ks bc voting} (hp : batchConfigFromMessage act thr idx ks = some bc)
      (hck : a.checkConfig bc = true) (hk : a.lastConfig.isKeyper s = true)
      (hv : a.configVoting.addVote s bc = some voting)
      (hout : voting.outcome o (toInt64 a.lastConfig.threshold) = none) :
      Effect o a s (.batchConfig act thr idx ks) fun ns c => ({ a.withRest ns c with configVoting := voting }, okResp [])
  | accept {act thr idx ks bc voting w} (hp : batchConfigFromMessage act thr idx ks = some bc)
      (hck : a.checkConfig bc = true) (hk : a.lastConfig.isKeyper s = true)
      (hv : a.configVoting.addVote s bc = some voting)
      (hout : voting.outcome o (toInt64 a.lastConfig.threshold) = some w) :
      Effect o a s (.batchConfig act thr idx ks) fun ns c =>
        ((App.startDKG (App.updateCheckTxMembers
            { a.withRest ns c with configVoting := Voting.empty, configs := a.configs ++ [bc] }) bc).1,
          okResp [bc.event, .eonStarted ((a.eonCounter + 1) % 2 ^ 64) bc.activation bc.index])

variable {o : Order} {a : App} {s : Addr} {p : Payload}

-- `{_ : Decidable g}`: whatever instance the `if` of the goal carries (as in `if_pos`), here and in `Effect.guard`
theorem Effect.branch {g : Prop} {_ : Decidable g} {F G : List (Addr × Nat) → CheckTxState → App × Resp}
    (hF : g → Effect o a s p F) (hG : ¬g → Effect o a s p G) :
    Effect o a s p fun ns c => if g then F ns c else G ns c := by
  by_cases hg : g
  · simp only [if_pos hg]; exact hF hg
  · simp only [if_neg hg]; exact hG hg

theorem Effect.guard {g : Prop} {_ : Decidable g} {r : Resp} {F : List (Addr × Nat) → CheckTxState → App × Resp}
    (hr : r = errResp ∨ r = seenResp) (h : ¬g → Effect o a s p F) :
    Effect o a s p fun ns c => if g then (a.withRest ns c, r) else F ns c :=
  .branch (fun _ => .refused hr) h

theorem Effect.lookup {eon : Nat} {f : DKG → Reg} {ev : Event} (hp : p.isDkgMsg = true)
    (hf : ∀ {d d'}, f d = .ok d' → d.config.isKeyper s = true ∧ d'.config = d.config) :
    Effect o a s p fun ns c =>
      match a.dkgs.get? eon with
      | none => (a.withRest ns c, errResp)
      | some d => (a.withRest ns c).applyReg eon (f d) ev := by
  cases hd : a.dkgs.get? eon with
  | none => exact .refused (.inl rfl)
  | some d =>
    dsimp only
    cases hr : f d with
    | err => exact .refused (.inl rfl)
    | seen => exact .refused (.inr rfl)
    | ok d' => exact .register hp hd (hf hr).1 (hf hr).2

theorem Effect.parsed {raws : List Raw} {F : List Addr → List (Addr × Nat) → CheckTxState → App × Resp}
    (h : ∀ l, Effect o a s p (F l)) :
    Effect o a s p fun ns c =>
      match parseAddresses raws with
      | none => (a.withRest ns c, errResp)
      | some l => if !uniqueAddrs l then (a.withRest ns c, errResp) else F l ns c := by
  cases parseAddresses raws with
  | none => exact .refused (.inl rfl)
  | some l => exact .guard (.inl rfl) fun _ => h l

theorem deliverMessage_effect (o : Order) (a : App) (s : Addr) (p : Payload) :
    ∃ F, Effect o a s p F ∧ ∀ ns c, (a.withRest ns c).deliverMessage o s p = F ns c := by
  -- `F` is the handler itself at `a.withRest ns c`, found from the `rfl`
  refine ⟨_, ?_, fun _ _ => rfl⟩
  cases p with
  | none => exact .refused (.inl rfl)
  | blockSeen b =>
    -- `+instances`: a guard's `Decidable` instance mentions `a.withRest ns c` as the guard did
    dsimp +instances only [deliverMessage, deliverBlockSeen, withRest_isKeyper]
    refine .guard (.inl rfl) fun hk => ?_
    have hk : a.isKeyper s = true := Bool.not_not_eq.1 hk
    exact .branch (fun _ => .blockSeen hk) fun _ => .blockSeen (m := a.blocksSeen) hk
  | checkIn k ok e =>
    dsimp +instances only [deliverMessage, deliverCheckIn, withRest_checkInForkActive, withRest_isKeyper]
    refine .guard (.inr rfl) fun _ => ?_
    refine .guard (.inl rfl) fun hk => ?_
    refine .guard (.inl rfl) fun hlen => ?_
    refine .guard (.inl rfl) fun hok => ?_
    exact .checkIn (Bool.not_not_eq.1 hk) (Classical.not_not.1 hlen) (Bool.not_not_eq.1 hok)
  | polyEval eon rs n e =>
    exact .guard (.inl rfl) fun _ => .parsed fun _ => .lookup rfl registerPolyEval_ok
  | polyCommitment eon ok g => exact .guard (.inl rfl) fun _ => .lookup rfl registerPolyCommitment_ok
  | accusation eon as => exact .parsed fun _ => .lookup rfl registerAccusation_ok
  | apology eon as n e =>
    exact .guard (.inl rfl) fun _ => .parsed fun _ => .lookup rfl registerApology_ok
  | dkgResult eon success =>
    dsimp +instances only [deliverMessage, deliverDKGResult]
    cases hd : a.dkgs.get? eon with
    | none => exact .refused (.inl rfl)
    | some d =>
      refine .guard (.inl rfl) fun hk => ?_
      have hk : d.config.isKeyper s = true := Bool.not_not_eq.1 hk
      cases hv : d.success.addVote s success with
      | none => exact .refused (.inr rfl)
      | some voting =>
        simp only [maybeStartEon, AMap.get?_insert_self]
        cases hout : voting.outcome o (toInt64 d.config.threshold) with
        | none => exact .dkgVote hd hk
        | some w =>
          dsimp +instances only
          cases hc : (w || decide (eon < a.eonCounter)) with
          | true => exact .dkgVote hd hk
          | false =>
            obtain ⟨rfl, hnew⟩ := Bool.or_eq_false_iff.1 hc
            exact .restart hd hk hv hout (of_decide_eq_false hnew)
  | batchConfig act thr idx ks =>
    dsimp +instances only [deliverMessage, deliverBatchConfig, withRest_lastConfig, withRest_checkConfig]
    cases hp : batchConfigFromMessage act thr idx ks with
    | none => exact .refused (.inl rfl)
    | some bc =>
      refine .guard (.inr rfl) fun _ => ?_
      refine .guard (.inl rfl) fun hck => ?_
      refine .guard (.inl rfl) fun hk => ?_
      cases hv : a.configVoting.addVote s bc with
      | none => exact .refused (.inl rfl)
      | some voting =>
        -- the threshold is read in the state with the vote recorded: unfold, so that `cases` finds the term
        dsimp only [App.lastConfig]
        cases hout : voting.outcome o (toInt64 (a.configs.getLast?.getD default).threshold) with
        | none => exact .vote hp (Bool.not_not_eq.1 hck) (Bool.not_not_eq.1 hk) hv hout
        | some w => exact .accept hp (Bool.not_not_eq.1 hck) (Bool.not_not_eq.1 hk) hv hout

theorem deliverMessage_cases (o : Order) (a : App) (s : Addr) (p : Payload) :
    ∃ F, Effect o a s p F ∧ a.deliverMessage o s p = F a.nonces a.checkTx :=
  let ⟨F, h, hF⟩ := deliverMessage_effect o a s p
  ⟨F, h, hF a.nonces a.checkTx⟩

theorem deliverMessage_keeps (o : Order) (a : App) (sender : Addr) (p : Payload) :
    (a.deliverMessage o sender p).1.nonces = a.nonces ∧ (a.deliverMessage o sender p).1.validators = a.validators := by
  obtain ⟨F, h, e⟩ := deliverMessage_cases o a sender p
  rw [e]
  cases h <;> exact ⟨rfl, rfl⟩

theorem deliverMessage_Frame (o : Order) (a : App) (sender : Addr) (p : Payload)
    (hp : p.isDkgMsg = true ∨ (∃ b, p = .blockSeen b) ∨ (∃ k ok e, p = .checkIn k ok e) ∨ p = .none) :
    Frame a (a.deliverMessage o sender p).1 := by
  obtain ⟨F, h, e⟩ := deliverMessage_cases o a sender p
  rw [e]
  cases h
  case dkgVote | restart | vote | accept => simp [Payload.isDkgMsg] at hp
  all_goals exact ⟨rfl, rfl, rfl⟩

section
variable (o : Order) {a : App} {s : Addr} {c : String} {n : Nat} (p : Payload)

theorem deliverTx_of_chainId_ne (hc : c ≠ a.chainId) : a.deliverTx o (.msg s c n p) = (a, errResp) := by
  simp only [deliverTx]; rw [if_pos hc]

theorem deliverTx_of_nonce_mem (hn : a.nonces.contains (s, n) = true) :
    a.deliverTx o (.msg s c n p) = (a, errResp) := by
  simp only [deliverTx]; rw [if_pos hn, ite_self]

theorem deliverTx_exec (hc : c = a.chainId) (hn : a.nonces.contains (s, n) = false) :
    a.deliverTx o (.msg s c n p) = App.deliverMessage o { a with nonces := a.nonces ++ [(s, n)] } s p := by
  simp only [deliverTx]; rw [if_neg (Classical.not_not.2 hc), hn]; rfl

end

def Tx.signer? : Tx → Option Addr
  | .undecodable => none
  | .msg s _ _ _ => some s

/-- Stated for every state `b` with `a`'s chain id and the same executed nonces of the signer, so that it can be used
    in two states at once (`Mempool.stepWith_withCheck`, `deliverTx_agree`). -/
theorem deliverTx_cases (o : Order) (a : App) (tx : Tx) :
    (∀ b : App, b.chainId = a.chainId →
      (∀ s n, tx.signer? = some s → b.nonces.contains (s, n) = a.nonces.contains (s, n)) → b.deliverTx o tx = (b, errResp)) ∨
    ∃ s c n p, tx = .msg s c n p ∧ ∀ b : App, b.chainId = a.chainId →
      (∀ s n, tx.signer? = some s → b.nonces.contains (s, n) = a.nonces.contains (s, n)) →
      b.deliverTx o tx = App.deliverMessage o { b with nonces := b.nonces ++ [(s, n)] } s p := by
  cases tx with
  | undecodable => exact .inl fun _ _ _ => rfl
  | msg s c n p =>
    by_cases hc : c = a.chainId
    · cases hn : a.nonces.contains (s, n) with
      | true => exact .inl fun b _ hb => deliverTx_of_nonce_mem o p ((hb s n rfl).trans hn)
      | false => exact .inr ⟨s, c, n, p, rfl, fun b hbc hb => deliverTx_exec o p (hbc ▸ hc) ((hb s n rfl).trans hn)⟩
    · exact .inl fun b hbc _ => deliverTx_of_chainId_ne o p (hbc ▸ hc)

theorem checkTxOp_fst (a : App) (tx : Tx) :
    ∃ c, (a.checkTxOp tx).1 = { a with checkTx := c } ∧ c.members = a.checkTx.members := by
  fun_cases checkTxOp a tx
  all_goals exact ⟨_, rfl, rfl⟩

/-- the first `if` of `endBlockStep` decides `started`, the second writes `validatorsUpdated` only -/
theorem endBlockStep_started (a : App) (cfgs : List BatchConfig) (i : Nat) (c : BatchConfig) :
    (endBlockStep a cfgs i c).1.started =
      (c.started || decide ((cfgs.getD (i - 1) default).threshold ≤ a.seenVotes (cfgs.getD (i - 1) default) c)) := by
  unfold endBlockStep
  dsimp only
  rw [apply_ite BatchConfig.started, ite_self]
  generalize cfgs.getD (i - 1) default = allowance
  by_cases hq : allowance.threshold ≤ a.seenVotes allowance c <;> cases hs : c.started <;> simp [hq, hs]

theorem endBlockLoop_core (a : App) (i : Nat) (done rest : List BatchConfig) (evs : List Event) :
    (endBlockLoop a i done rest evs).1.map BatchConfig.core = (done ++ rest).map BatchConfig.core := by
  have hstep : ∀ cfgs i c, (endBlockStep a cfgs i c).1.core = c.core := by
    intro cfgs i c
    dsimp only [endBlockStep]
    -- either guard only sets a flag (`started`, `validatorsUpdated`), which `core` forgets; the guards as Booleans
    -- (`split` would take apart every copy of the first that unfolding makes)
    generalize (!c.started && _) = b₁
    generalize (_ && decide (numRequiredTransitionValidators _ ≤ _)) = b₂
    cases b₁ <;> cases b₂ <;> rfl
  induction rest generalizing i done evs with
  | nil => simp [endBlockLoop]
  | cons c rest ih =>
    simp only [endBlockLoop]
    rw [ih]
    simp [hstep]

theorem endBlockLoop_congr {a b : App} (hs : endBlockStep b = endBlockStep a)
    (i : Nat) (done rest : List BatchConfig) (evs : List Event) :
    endBlockLoop b i done rest evs = endBlockLoop a i done rest evs := by
  induction rest generalizing i done evs with
  | nil => rfl
  | cons c rest ih => simp only [endBlockLoop, hs, ih]

theorem endBlock_withRest (o : Order) (a : App) (ns : List (Addr × Nat)) (c : CheckTxState) (height : Int) :
    (a.withRest ns c).endBlock o height = Prod.map (·.withRest ns c) id (a.endBlock o height) := by
  unfold endBlock
  -- `endBlockStep` reads `blocksSeen` and `identities` of the state only; `withRest` touches neither
  rw [endBlockLoop_congr (b := a.withRest ns c) (a := a) rfl]
  rfl

/-- in order: `BeginBlock` or a refused transaction; `CheckTx`, `Commit`; `EndBlock`; an executed message -/
theorem stepWith_cases (o : Order) (a : App) (op : Op) :
    (a.stepWith o op).1 = a ∨
    (∃ c, (a.stepWith o op).1 = { a with checkTx := c } ∧ c.members = a.checkTx.members) ∨
    (∃ cfgs ht, cfgs.map BatchConfig.core = a.configs.map BatchConfig.core ∧ (a.stepWith o op).1 =
      { a with configs := cfgs, validators := App.currentValidators { a with configs := cfgs }, lastBlockHeight := ht }) ∨
    ∃ s c n p, op = .deliver (.msg s c n p) ∧
      (a.stepWith o op).1 = (App.deliverMessage o { a with nonces := a.nonces ++ [(s, n)] } s p).1 := by
  cases op with
  | begin h => exact .inl rfl
  | deliver tx =>
    -- `tx` stays a variable: with `.msg s c n p` in its place the unifier unfolds `deliverTx`
    rcases deliverTx_cases o a tx with h | ⟨s, c, n, p, htx, h⟩
    · exact .inl (congrArg Prod.fst (h a rfl fun _ _ _ => rfl))
    · exact .inr (.inr (.inr ⟨s, c, n, p, congrArg Op.deliver htx, congrArg Prod.fst (h a rfl fun _ _ _ => rfl)⟩))
  | check tx => exact .inr (.inl (checkTxOp_fst a tx))
  | endBlock h => exact .inr (.inr (.inl ⟨_, h, endBlockLoop_core a 0 [] a.configs [], rfl⟩))
  | commit => exact .inr (.inl ⟨_, rfl, rfl⟩)

/-- only an accepted configuration changes the member list, and it recomputes it (`updateCheckTxMembers`) -/
theorem stepWith_members (a : App) (o : Order) (op : Op) (h : a.checkTx.members = allMembers a.configs) :
    (a.stepWith o op).1.checkTx.members = allMembers (a.stepWith o op).1.configs := by
  rcases stepWith_cases o a op with he | ⟨c, he, hm⟩ | ⟨cfgs, ht, hcore, he⟩ | ⟨s, c, n, p, -, he⟩ <;> rw [he]
  · exact h
  · exact hm.trans h
  · unfold allMembers at h ⊢
    rw [h, List.flatMap_def, List.flatMap_def, map_keypers_of_core hcore]
  · obtain ⟨F, hx, e⟩ := deliverMessage_cases o { a with nonces := a.nonces ++ [(s, n)] } s p
    rw [e]
    cases hx with
    | accept => rfl
    | _ => exact h

theorem runWith_invariant {P : App → Prop} {Q : Order × Op → Prop}
    (hstep : ∀ a o op, Q (o, op) → P a → P (a.stepWith o op).1)
    {a : App} (h : P a) {ops : List (Order × Op)} (hq : ∀ p ∈ ops, Q p) : P (a.runWith ops).1 := by
  induction ops generalizing a with
  | nil => exact h
  | cons p rest ih =>
    exact ih (hstep a p.1 p.2 (hq p List.mem_cons_self) h) fun q hq' => hq q (List.mem_cons_of_mem _ hq')

end Shutter.App
