/-
The fold behind `SELECT … WHERE q ORDER BY m DESC LIMIT 1` and `SELECT max(m) … WHERE q`: of the rows that
satisfy `q` it keeps what `out` takes from a row (the row, or `m` of it), the first of greatest `m`: `mo (out x)` is
the row's `m`.
-/
namespace Shutter
open List

variable {α β : Type} (q : α → Prop) [DecidablePred q] (out : α → β) (mo : β → Int)

def keepMax (acc : Option β) (x : α) : Option β :=
  if q x then
    (match acc with
     | none => some (out x)
     | some a => if mo a < mo (out x) then some (out x) else some a)
  else acc

theorem keepMax_cases (acc : Option β) (x : α) :
    (keepMax q out mo acc x = acc ∧ (q x → ∃ a, acc = some a ∧ mo (out x) ≤ mo a)) ∨
      (keepMax q out mo acc x = some (out x) ∧ q x ∧ ∀ a, acc = some a → mo a ≤ mo (out x)) := by
  fun_cases keepMax q out mo acc x with
  | case1 hq => exact Or.inr ⟨rfl, hq, nofun⟩
  | case2 hq a hlt => exact Or.inr ⟨rfl, hq, fun _ ha' => Option.some.inj ha' ▸ Int.le_of_lt hlt⟩
  | case3 hq a hlt => exact Or.inl ⟨rfl, fun _ => ⟨a, rfl, Int.not_lt.1 hlt⟩⟩
  | case4 _ hq => exact Or.inl ⟨rfl, fun h => absurd h hq⟩

theorem foldl_keepMax_eq_some {l : List α} {acc : Option β} {b : β}
    (h : l.foldl (keepMax q out mo) acc = some b) :
    ((∃ x ∈ l, q x ∧ out x = b) ∨ acc = some b) ∧ (∀ x ∈ l, q x → mo (out x) ≤ mo b) ∧
      ∀ a, acc = some a → mo a ≤ mo b := by
  induction l generalizing acc with
  | nil => exact ⟨Or.inr h, nofun, fun _ ha => Option.some.inj (ha.symm.trans h) ▸ Int.le_refl _⟩
  | cons x rest ih =>
    obtain ⟨h1, h2, h3⟩ := ih h
    have h1 : (∃ y ∈ x :: rest, q y ∧ out y = b) ∨ keepMax q out mo acc x = some b :=
      h1.imp_left (Exists.imp fun y => And.imp_left (mem_cons_of_mem x))
    rcases keepMax_cases q out mo acc x with ⟨he, hx⟩ | ⟨he, hq, hx⟩
    · rw [he] at h1 h3
      refine ⟨h1, forall_mem_cons.2 ⟨fun hqx => ?_, h2⟩, h3⟩
      obtain ⟨a, ha, hle⟩ := hx hqx
      exact Int.le_trans hle (h3 a ha)
    · rw [he] at h1 h3
      have hxb : mo (out x) ≤ mo b := h3 _ rfl
      -- the witness found so far, or else `x` itself
      exact ⟨Or.inl (h1.elim id fun h => ⟨x, mem_cons_self, hq, Option.some.inj h⟩),
        forall_mem_cons.2 ⟨fun _ => hxb, h2⟩, fun a ha => Int.le_trans (hx a ha) hxb⟩

theorem foldl_keepMax_none {l : List α} {b : β} (h : l.foldl (keepMax q out mo) none = some b) :
    (∃ x ∈ l, q x ∧ out x = b) ∧ ∀ x ∈ l, q x → mo (out x) ≤ mo b :=
  have ⟨h1, h2, _⟩ := foldl_keepMax_eq_some q out mo h
  ⟨h1.resolve_right nofun, h2⟩

theorem foldl_keepMax_isSome (l : List α) (acc : Option β) (h : acc.isSome ∨ ∃ x ∈ l, q x) :
    (l.foldl (keepMax q out mo) acc).isSome := by
  induction l generalizing acc with
  | nil => simpa using h
  | cons x rest ih =>
    refine ih _ ?_
    rcases keepMax_cases q out mo acc x with ⟨he, hx⟩ | ⟨he, _⟩
    · rw [he]
      rcases h with h | ⟨y, hy, hqy⟩
      · exact Or.inl h
      · rcases mem_cons.1 hy with rfl | hy
        · obtain ⟨a, ha, _⟩ := hx hqy
          exact Or.inl (ha ▸ rfl)
        · exact Or.inr ⟨y, hy, hqy⟩
    · exact Or.inl (he ▸ rfl)

end Shutter
