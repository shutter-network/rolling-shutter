/-
Lemmas about `Voting`.  Under a valid order `outcome` is decided by the counts over the votes map itself
(`outcome_eq`); the order-independence of the application and the vote invariant both start from that.
-/
import Shutter.Model.App

namespace Shutter.App
open Shutter Shutter.App.App

theorem Order.canonical_valid : Order.canonical.Valid := ⟨fun _ => .refl _, fun _ => .refl _⟩

theorem countOn_perm {l₁ l₂ : List (Addr × Nat)} (h : l₁.Perm l₂) (i : Nat) :
    Voting.countOn l₁ i = Voting.countOn l₂ i :=
  (h.filter _).length_eq

theorem countOn_append (l : List (Addr × Nat)) (s : Addr) (j i : Nat) :
    Voting.countOn (l ++ [(s, j)]) i = Voting.countOn l i + (if j = i then 1 else 0) := by
  unfold Voting.countOn
  simp only [List.filter_append, List.length_append, List.filter_cons, List.filter_nil]
  by_cases h : j = i <;> simp [h]

theorem countOn_nil (i : Nat) : Voting.countOn [] i = 0 := rfl

theorem countOn_pos_iff {l : List (Addr × Nat)} {i : Nat} : 0 < Voting.countOn l i ↔ ∃ e ∈ l, e.2 = i := by
  simp [Voting.countOn, List.length_pos_iff_exists_mem]

def votersFor (votes : AMap Addr Nat) (i : Nat) : List Addr :=
  (votes.filter (fun e => e.2 = i)).map (·.1)

theorem votersFor_length (votes : AMap Addr Nat) (i : Nat) :
    (votersFor votes i).length = Voting.countOn votes i := by
  simp [votersFor, Voting.countOn]

theorem votersFor_sublist_keys (votes : AMap Addr Nat) (i : Nat) :
    (votersFor votes i).Sublist (AMap.keys votes) := by
  unfold votersFor AMap.keys
  exact List.Sublist.map _ List.filter_sublist

theorem mem_of_mem_votersFor {votes : AMap Addr Nat} {i : Nat} {s : Addr} :
    s ∈ votersFor votes i → (s, i) ∈ votes := by
  simp only [votersFor, List.mem_map, List.mem_filter, decide_eq_true_eq]
  rintro ⟨⟨a, b⟩, ⟨he, rfl⟩, rfl⟩
  exact he

theorem outcomeIndexOn_perm {l₁ l₂ : List (Addr × Nat)} (h : l₁.Perm l₂) (n : Nat) (r : Int) :
    Voting.outcomeIndexOn l₁ n r = Voting.outcomeIndexOn l₂ n r := by
  unfold Voting.outcomeIndexOn
  simp only [countOn_perm h]

theorem outcomeIndexOn_some {l : List (Addr × Nat)} {n : Nat} {r : Int} {i : Nat}
    (h : Voting.outcomeIndexOn l n r = some i) :
    i < n ∧ 0 < Voting.countOn l i ∧ r ≤ (Voting.countOn l i : Int) := by
  unfold Voting.outcomeIndexOn at h
  have h1 := List.find?_some h
  have h2 := List.mem_of_find?_eq_some h
  simp only [Bool.and_eq_true, decide_eq_true_eq] at h1
  exact ⟨List.mem_range.1 h2, h1.1, h1.2⟩

/-- `(v.candidates ++ [c])[j]?`: the candidate voted for is an old one or new at the end -/
theorem addVote_some {T : Type} [DecidableEq T] {v voting : Voting T} {s : Addr} {c : T}
    (h : v.addVote s c = some voting) :
    v.votes.contains s = false ∧ ∃ j, voting.votes = v.votes ++ [(s, j)] ∧
      (v.candidates ++ [c])[j]? = some c ∧
      v.candidates.length ≤ voting.candidates.length ∧ j < voting.candidates.length := by
  revert h
  fun_cases Voting.addVote v s c with
  | case1 => nofun
  | case2 hfresh =>
    rintro ⟨⟩
    have hfresh : v.votes.contains s = false := Bool.eq_false_iff.2 hfresh
    refine ⟨hfresh, ?_⟩
    fun_cases Voting.setVote v s c with
    | case1 j hf =>
      obtain ⟨hj, hc, -⟩ := List.findIdx?_eq_some_iff_getElem.1 hf
      have hx : v.candidates[j]? = some c := by rw [List.getElem?_eq_getElem hj, ← of_decide_eq_true hc]
      exact ⟨j, AMap.insert_of_not_contains _ hfresh, by rw [List.getElem?_append_left hj]; exact hx,
        Nat.le_refl _, hj⟩
    | case2 => exact ⟨v.candidates.length, AMap.insert_of_not_contains _ hfresh, by simp, by simp, by simp⟩

theorem outcome_eq {T : Type} {o : Order} (ho : o.Valid) (v : Voting T) (r : Int) :
    v.outcome o r = (Voting.outcomeIndexOn v.votes v.candidates.length r).bind (v.candidates[·]?) := by
  unfold Voting.outcome Voting.outcomeIndex
  rw [outcomeIndexOn_perm (ho.votes_perm _)]
  cases Voting.outcomeIndexOn v.votes v.candidates.length r <;> rfl

theorem outcome_none {T : Type} {o : Order} (ho : o.Valid) {v : Voting T} {r : Int}
    (h : v.outcome o r = none) {i : Nat} (hi : i < v.candidates.length) (hc : 0 < Voting.countOn v.votes i) :
    (Voting.countOn v.votes i : Int) < r := by
  rw [outcome_eq ho] at h
  cases hoi : Voting.outcomeIndexOn v.votes v.candidates.length r with
  | none =>
    unfold Voting.outcomeIndexOn at hoi
    have := List.find?_eq_none.1 hoi i (List.mem_range.2 hi)
    simp only [Bool.and_eq_true, decide_eq_true_eq, not_and, Int.not_le] at this
    exact this hc
  | some j =>
    -- the index found is on the candidate list, so the lookup cannot fail
    rw [hoi, Option.bind_some, List.getElem?_eq_none_iff] at h
    exact absurd (outcomeIndexOn_some hoi).1 (Nat.not_lt.2 h)

theorem outcome_some {T : Type} {o : Order} (ho : o.Valid) {v : Voting T} {r : Int} {w : T}
    (h : v.outcome o r = some w) : ∃ i, v.candidates[i]? = some w ∧
      0 < Voting.countOn v.votes i ∧ r ≤ (Voting.countOn v.votes i : Int) := by
  rw [outcome_eq ho, Option.bind_eq_some_iff] at h
  obtain ⟨i, hoi, hw⟩ := h
  exact ⟨i, hw, (outcomeIndexOn_some hoi).2⟩

end Shutter.App
