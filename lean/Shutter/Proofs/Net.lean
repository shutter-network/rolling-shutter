/- What `Model/Net.lean` does for any arithmetic (`EpochKG.Ops`): the two ON CONFLICT DO NOTHING inserts, aggregation
   over the identities of a message, a node's keys along a run. -/
import Shutter.Model.Net
import Shutter.Proofs.List

namespace Shutter.Net
open Shutter.Sort Shutter.EpochKG List

variable {F G : Type}

theorem hasRow_iff {rows : List (Row G)} {id : Bytes} {s : Nat} :
    hasRow rows id s = true ↔ ∃ r ∈ rows, r.id = id ∧ r.sender = s := by
  simp [hasRow]

theorem mem_rowsOf {rows : List (Row G)} {id : Bytes} {e : Nat × G} :
    e ∈ rowsOf rows id ↔ ∃ r ∈ rows, r.id = id ∧ (r.sender, r.share) = e := by
  simp [rowsOf, and_assoc]

theorem forall_insertShares {P : Row G → Prop} {s : Nat} {l : List (Bytes × G)} {rows : List (Row G)}
    (h1 : ∀ r ∈ rows, P r) (h2 : ∀ e ∈ l, P { id := e.1, sender := s, share := e.2 }) :
    ∀ r ∈ insertShares rows s l, P r := by
  induction l generalizing rows with
  | nil => exact h1
  | cons e rest ih =>
    refine ih ?_ fun x hx => h2 x (mem_cons_of_mem _ hx)
    split
    · exact h1
    · exact forall_mem_append.2 ⟨h1, forall_mem_singleton.2 (h2 e mem_cons_self)⟩

theorem hasRow_insertShares {s : Nat} {l : List (Bytes × G)} {rows : List (Row G)} {id : Bytes} {s' : Nat} :
    hasRow (insertShares rows s l) id s' = true ↔ hasRow rows id s' = true ∨ (∃ e ∈ l, e.1 = id) ∧ s = s' := by
  induction l generalizing rows with
  | nil => simp only [insertShares, not_mem_nil, false_and, exists_false, or_false]
  | cons e rest ih =>
    refine ih.trans ?_
    simp only [mem_cons, exists_eq_or_imp]
    rw [or_and_right, ← or_assoc]
    refine or_congr_left ?_
    split
    · next h =>
      -- the row of `e` is there already: if it is the one asked for, the left side holds by `h`
      exact (or_iff_left_of_imp fun h' => h'.1 ▸ h'.2 ▸ h).symm
    · simp only [hasRow_iff, mem_append, mem_singleton, or_and_right, exists_or, exists_eq_left]

/-- the relation is that of C03's `RowsInv.keyed`, not `Keyed`'s `key a ≠ key b` -/
theorem pairwise_insertShares {s : Nat} {l : List (Bytes × G)} {rows : List (Row G)}
    (h : rows.Pairwise (fun a b => ¬ (a.id = b.id ∧ a.sender = b.sender))) :
    (insertShares rows s l).Pairwise (fun a b => ¬ (a.id = b.id ∧ a.sender = b.sender)) := by
  induction l generalizing rows with
  | nil => exact h
  | cons e rest ih =>
    apply ih
    split
    · exact h
    · next hnew => exact pairwise_concat h fun a ha hab => hnew (hasRow_iff.2 ⟨a, ha, hab⟩)

theorem hasKey_iff {keys : List (Bytes × G)} {id : Bytes} : hasKey keys id = true ↔ ∃ k ∈ keys, k.1 = id := by
  simp [hasKey]

theorem forall_insertKeys {P : Bytes × G → Prop} {ks keys : List (Bytes × G)}
    (h1 : ∀ k ∈ keys, P k) (h2 : ∀ k ∈ ks, P k) : ∀ k ∈ insertKeys keys ks, P k := by
  induction ks generalizing keys with
  | nil => exact h1
  | cons k rest ih =>
    refine ih ?_ fun x hx => h2 x (mem_cons_of_mem _ hx)
    split
    · exact h1
    · exact forall_mem_append.2 ⟨h1, forall_mem_singleton.2 (h2 k mem_cons_self)⟩

theorem hasKey_insertKeys {ks keys : List (Bytes × G)} {id : Bytes} :
    hasKey (insertKeys keys ks) id = true ↔ hasKey keys id = true ∨ hasKey ks id = true := by
  induction ks generalizing keys with
  | nil => simp only [insertKeys, hasKey, any_nil, Bool.false_eq_true, or_false]
  | cons k rest ih =>
    refine ih.trans ?_
    show _ ↔ _ ∨ (decide (k.1 = id) || hasKey rest id) = true
    rw [Bool.or_eq_true, decide_eq_true_eq, ← or_assoc]
    refine or_congr_left ?_
    split
    · next h =>
      -- a key for `k.1` is there already: if `k.1` is the identity asked for, the left side holds by `h`
      exact (or_iff_left_of_imp fun hk => hk ▸ h).symm
    · simp only [hasKey, any_append, any_cons, any_nil, Bool.or_false, Bool.or_eq_true, decide_eq_true_eq]

theorem aggregateAll_eq_some {o : Ops F G} {verify : Bytes → Nat → G → Bool} {n t : Nat} {rows : List (Row G)}
    {g : Bytes → G} {l : List (Bytes × G)} (h : ∀ e ∈ l, aggregate o verify n t rows e.1 = some (g e.1)) :
    aggregateAll o verify n t rows l = some (l.map (fun e => (e.1, g e.1))) := by
  induction l with
  | nil => rfl
  | cons e rest ih =>
    simp only [aggregateAll, h e mem_cons_self, ih (fun x hx => h x (mem_cons_of_mem _ hx)), map_cons]

theorem aggregateAll_some {o : Ops F G} {verify : Bytes → Nat → G → Bool} {n t : Nat} {rows : List (Row G)}
    {l out : List (Bytes × G)} (h : aggregateAll o verify n t rows l = some out) :
    ∀ k ∈ out, aggregate o verify n t rows k.1 = some k.2 := by
  fun_induction aggregateAll o verify n t rows l generalizing out with
  | case1 => cases h; nofun
  | case2 | case3 => cases h
  | case4 e rest k0 hk0 ks hks ih =>
    cases h
    exact forall_mem_cons.2 ⟨hk0, ih hks⟩

section Run
variable {o : Ops F G} {verify : Bytes → Nat → G → Bool} {n t : Nat}

theorem handleShares_fst (nd : Node G) (m : ShareMsg G) :
    (handleShares o verify n t nd m).1 =
      { rows := insertShares nd.rows m.sender m.shares,
        keys := if m.shares.all (fun e => hasKey nd.keys e.1) then nd.keys else
          match aggregateAll o verify n t (insertShares nd.rows m.sender m.shares) m.shares with
          | none => nd.keys
          | some ks => insertKeys nd.keys ks } := by
  simp only [handleShares]
  split
  · rfl
  · cases aggregateAll o verify n t (insertShares nd.rows m.sender m.shares) m.shares <;> rfl

theorem hasKey_step {nd : Node G} {id : Bytes} (h : hasKey nd.keys id = true) (e : Ev G) :
    hasKey (step o verify n t nd e).keys id = true := by
  cases e with
  | keys ks => exact hasKey_insertKeys.2 (.inl h)
  | own m => exact h
  | shares m =>
    rw [step, handleShares_fst]
    split
    · exact h
    · split
      · exact h
      · exact hasKey_insertKeys.2 (.inl h)

theorem hasKey_runNode {nd : Node G} {id : Bytes} (h : hasKey nd.keys id = true) (evs : List (Ev G)) :
    hasKey (runNode o verify n t nd evs).keys id = true := by
  induction evs generalizing nd with
  | nil => exact h
  | cons e rest ih => exact ih (hasKey_step h e)

theorem hasKey_after {nd : Node G} (pre post : List (Ev G)) (e : Ev G) {id : Bytes}
    (h : hasKey (step o verify n t (runNode o verify n t nd pre) e).keys id = true) :
    hasKey (runNode o verify n t nd (pre ++ [e] ++ post)).keys id = true := by
  rw [runNode, append_assoc, foldl_append, singleton_append, foldl_cons]
  exact hasKey_runNode h post

end Run

end Shutter.Net
