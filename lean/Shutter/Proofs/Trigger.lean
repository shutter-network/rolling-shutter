/-
Lemmas about the event-trigger model: what a search by key finds in the fired table after inserts, the candidates
of a registration, the primary key of the registrations.
-/
import Shutter.Model.Trigger
import Shutter.Proofs.Keyed

namespace Shutter.Trigger
open List

theorem isFired_eq (fired : List Fired) (k : Nat) : isFired fired k = (fired.find? (fun f => f.key = k)).isSome := by
  rw [Bool.eq_iff_iff]
  simp [isFired]

theorem find?_insertFired (fired : List Fired) (f : Fired) (k : Nat) :
    (insertFired fired f).find? (fun x => x.key = k) =
      (fired.find? (fun x => x.key = k)).or (if f.key = k then some f else none) := by
  fun_cases insertFired fired f with
  | case1 hf =>
    by_cases hk : f.key = k
    · rw [Option.or_of_isSome]
      rw [← hk, ← isFired_eq]
      exact hf
    · rw [if_neg hk, Option.or_none]
  | case2 _ => simp [find?_append, find?_singleton]

theorem find?_foldl_insertFired (cands : List Fired) (fired : List Fired) (k : Nat) :
    (cands.foldl insertFired fired).find? (fun x => x.key = k) =
      (fired.find? (fun x => x.key = k)).or (cands.find? (fun x => x.key = k)) := by
  induction cands generalizing fired with
  | nil => rw [foldl_nil, find?_nil, Option.or_none]
  | cons c rest ih =>
    rw [foldl_cons, ih, find?_insertFired, Option.or_assoc, find?_cons]
    by_cases hc : c.key = k <;> simp [hc]

theorem mem_candidates {r : Reg} {blocks : List Blk} {c : Fired} :
    c ∈ candidates r blocks ↔ ∃ b ∈ blocks, b.number ≤ r.expiry ∧
      ∃ i ∈ matchesIn r.topic b.items 0, c = { key := r.key, block := b.number, logIndex := i } := by
  induction blocks with
  | nil => simp only [candidates, not_mem_nil, false_and, exists_false]
  | cons b rest ih =>
    simp only [candidates, mem_append, mem_ite_nil_right, mem_map, ih, mem_cons, or_and_right, exists_or,
      exists_eq_left', eq_comm]

theorem candidates_append (r : Reg) (a b : List Blk) : candidates r (a ++ b) = candidates r a ++ candidates r b := by
  induction a with
  | nil => rfl
  | cons x rest ih => simp only [cons_append, candidates, ih, append_assoc]

theorem candidates_expired (r : Reg) (start : Nat) (blocks : List Blk) (hfrom : ∀ b ∈ blocks, start ≤ b.number)
    (h : r.expiry < start) : candidates r blocks = [] :=
  eq_nil_iff_forall_not_mem.2 fun c hc => by
    obtain ⟨b, hb, hle, _⟩ := mem_candidates.1 hc
    have := hfrom b hb
    omega

theorem find?_candidates (r : Reg) (blocks : List Blk) (k : Nat) :
    (candidates r blocks).find? (fun x => x.key = k) = if r.key = k then (candidates r blocks).head? else none := by
  have hkey : ∀ c ∈ candidates r blocks, c.key = r.key := fun c hc => by
    obtain ⟨_, _, _, _, _, rfl⟩ := mem_candidates.1 hc; rfl
  split
  · next h =>
    cases hl : candidates r blocks with
    | nil => rfl
    | cons c t => simp [← h, hkey c (hl ▸ mem_cons_self)]
  · next h => exact find?_eq_none.2 fun c hc => by simp [hkey c hc, h]

/-- the `Pairwise` is `Properties.C16.Keyed` -/
theorem stepRange_keyed (st : St) (start : Nat) (blocks : List Blk)
    (h : st.regs.Pairwise (fun a b => a.key ≠ b.key)) :
    (stepRange st start blocks).regs.Pairwise (fun a b => a.key ≠ b.key) :=
  foldlRecOn _ insertReg h fun _ hr r _ => Keyed.upsert r hr

end Shutter.Trigger
