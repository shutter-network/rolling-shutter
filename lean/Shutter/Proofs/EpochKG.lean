/- What `handle` does to the state (any `Ops`; nothing of Mathlib but the notation `ℕ`); then, with Mathlib: Lagrange interpolation at zero
   over a field, lifted to a module, and the model's folds (`Model/EpochKG.lean`) as finite sums and products. -/
import Mathlib.LinearAlgebra.Lagrange
import Shutter.Model.EpochKG

open Polynomial

namespace Shutter.EpochKG

section Handle
variable {F G : Type} {o : Ops F G} {verify : ℕ → G → Bool} {n t : ℕ}

theorem any_sender_iff_mem {shares : List (ℕ × G)} {s : ℕ} :
    shares.any (fun e => decide (e.1 = s)) = true ↔ s ∈ shares.map (·.1) := by
  simp only [List.any_eq_true, decide_eq_true_eq, List.mem_map]

theorem handle_ignored {st : St G} {s : ℕ} {sh : G}
    (h : st.key.isSome ∨ ¬ s < n ∨ verify s sh = false ∨ s ∈ st.shares.map (·.1)) :
    (handle o verify n t st s sh).2 = st := by
  fun_cases handle o verify n t st s sh with
  -- the two branches that store the share have passed all four guards, against `h`
  | case5 hk hn hv hd | case6 hk hn hv hd =>
    rcases h with h | h | h | h
    · exact absurd h hk
    · exact absurd h hn
    · exact absurd (h ▸ rfl) hv
    · exact absurd (any_sender_iff_mem.2 h) hd
  | _ => rfl

theorem handle_taken {st : St G} {s : ℕ} {sh : G} (hk : st.key = none) (hs : s < n)
    (hv : verify s sh = true) (hnew : s ∉ st.shares.map (·.1)) :
    (handle o verify n t st s sh).2 =
      if (st.shares ++ [(s, sh)]).length = t then
        { shares := [], key := some (combine o (st.shares ++ [(s, sh)])) }
      else { shares := st.shares ++ [(s, sh)], key := none } := by
  simp only [handle, apply_ite Prod.snd, any_sender_iff_mem, hk, hs, hv, hnew, Option.isSome_none, Bool.not_true,
    Bool.false_eq_true, not_true_eq_false, if_false, ne_eq, ite_not]

theorem handle_ne_panic (st : St G) {s : ℕ} (hs : s < n) (sh : G) :
    (handle o verify n t st s sh).1 ≠ .panic := by
  fun_cases handle o verify n t st s sh with
  | case2 _ hns => exact absurd hs hns
  | _ => exact Outcome.noConfusion

end Handle

variable {F G : Type} [Field F] [AddCommGroup G] [Module F G]

/-- the arithmetic of a field and a module over it, as the `Ops` the model is generic in -/
def lawful : Ops F G :=
  { ofNat := fun n => (n : F), one := 1, mul := (· * ·), sub := (· - ·), inv := (·⁻¹),
    gzero := 0, gadd := (· + ·), smul := (· • ·) }

/-- `keyperX lawful i`, as a cast (`keyperX_lawful`) -/
def node (i : ℕ) : F := ((i + 1 : ℕ) : F)

theorem keyperX_lawful (i : ℕ) : keyperX (lawful : Ops F G) i = (node i : F) := rfl

theorem eval_zero_eq_sum (s : Finset ℕ) (v : ℕ → F) (f : F[X]) (hv : Set.InjOn v ↑s)
    (hf : f.degree < s.card) :
    f.eval 0 = ∑ i ∈ s, (∏ j ∈ s.erase i, v j * (v j - v i)⁻¹) * f.eval (v i) := by
  conv_lhs => rw [Lagrange.eq_interpolate hv hf]
  rw [Lagrange.interpolate_apply, eval_finsetSum]
  refine Finset.sum_congr rfl fun i _ => ?_
  rw [eval_mul, eval_C, mul_comm, Lagrange.basis, eval_prod]
  refine congrArg (· * _) (Finset.prod_congr rfl fun j _ => ?_)
  rw [Lagrange.basisDivisor, eval_mul, eval_C, eval_sub, eval_X, eval_C, ← neg_sub (v j) (v i), inv_neg]
  ring

theorem lagrange_lawful (senders : List ℕ) (hnd : senders.Nodup) (j : ℕ) :
    lagrange (lawful : Ops F G) senders j =
      ∏ k ∈ senders.toFinset.erase j, (node k : F) * ((node k : F) - node j)⁻¹ := by
  have : senders.toFinset.erase j = (senders.filter (· ≠ j)).toFinset := by
    ext k; simp [Finset.mem_erase, and_comm]
  rw [this, List.prod_toFinset _ (hnd.filter _), List.prod_eq_foldl, List.foldl_map, List.foldl_filter]
  simp only [decide_not, Bool.not_eq_true', decide_eq_false_iff_not, ite_not]
  rfl

theorem combine_lawful (shares : List (ℕ × G)) :
    combine (lawful : Ops F G) shares =
      (shares.map (fun e => lagrange (lawful : Ops F G) (shares.map (·.1)) e.1 • e.2)).sum := by
  rw [List.sum_eq_foldl, List.foldl_map]
  rfl

/-- Interpolation in the exponent: `ComputeEpochSecretKey` on shares `f(x_j) • H` of senders with distinct evaluation points (`hnd`,
    `hinj`), more than the degree of `f`, returns `f(0) • H`. -/
theorem combine_eq (f : F[X]) (H : G) (shares : List (ℕ × G))
    (hnd : (shares.map (·.1)).Nodup)
    (hinj : Set.InjOn (node : ℕ → F) ↑(shares.map (·.1)).toFinset)
    (hdeg : f.degree < shares.length)
    (hval : ∀ e ∈ shares, e.2 = f.eval (node e.1) • H) :
    combine (lawful : Ops F G) shares = f.eval 0 • H := by
  rw [combine_lawful, eval_zero_eq_sum _ node f hinj (by rwa [List.toFinset_card_of_nodup hnd, List.length_map]),
    Finset.sum_smul, List.sum_toFinset _ hnd, List.map_map]
  -- every summand is a multiple of `H`, and the coefficients are those of Lagrange interpolation at zero
  refine congrArg List.sum (List.map_congr_left fun e he => ?_)
  rw [Function.comp, hval e he, smul_smul, lagrange_lawful _ hnd]

end Shutter.EpochKG
