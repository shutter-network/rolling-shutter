/-
Every read of log data returns a zero-padded window, `copyInto n (data.drop start)`, whatever the log says
(`readWord_eq`, `fill_eq`, `getValue_*`); totality, the allocation bound and the documented semantics follow.
The derived filter is handled through an invariant kept along `toFilterAux` (`Admits`).
-/
import Shutter.Model.TriggerDef

namespace Shutter.TriggerDef

theorem slice_eq_ok {data : Bytes} {a b : Nat} (h1 : a ≤ b) (h2 : b ≤ data.length) :
    slice data a b = .ok ((data.drop a).take (b - a)) := by
  simp [slice, h1, h2]

theorem copyInto_drop {data : Bytes} {start n : Nat} (h : start + n ≤ data.length) :
    copyInto n (data.drop start) = (data.drop start).take n := by
  have : n - (data.length - start) = 0 := Nat.sub_eq_zero_of_le (Nat.le_sub_of_add_le' h)
  simp [copyInto, zeros, this]

theorem copyInto_take (n : Nat) (src : Bytes) : copyInto n (src.take n) = copyInto n src := by
  simp only [copyInto, List.take_take, Nat.min_self, List.length_take, ← Nat.sub_eq_sub_min]

theorem slice_tail (data : Bytes) (start : Nat) (h : start < data.length) :
    slice data start data.length = .ok (data.drop start) := by
  rw [slice_eq_ok (Nat.le_of_lt h) (Nat.le_refl _), List.take_of_length_le (by simp)]

theorem readWord_eq (data : Bytes) (start : Nat) :
    readWord data start = .ok (copyInto word (data.drop start)) := by
  unfold readWord
  split
  · rename_i h
    rw [slice_tail data start h]
  · rw [List.drop_eq_nil_of_le (by omega)]
    simp [copyInto]

theorem fill_eq (data : Bytes) (start n : Nat) :
    fill data start n = .ok { bytes := some (copyInto n (data.drop start)), alloc := n } := by
  unfold fill
  split
  · rename_i h
    by_cases h2 : start + n < data.length
    · simp only [if_pos h2, slice_eq_ok (Nat.le_add_right _ _) (Nat.le_of_lt h2), Nat.add_sub_cancel_left,
        copyInto_take]
    · simp only [if_neg h2, slice_tail data start h]
  · rename_i h
    rw [List.drop_eq_nil_of_le (Nat.not_lt.1 h)]
    simp [copyInto]

theorem getValue_topic {r : ValueRef} {log : Log} (h : r.isTopic = true) :
    getValue r log = .ok { bytes := log.topics[r.offset]?, alloc := 0 } := by
  unfold getValue
  rw [if_pos h]
  cases log.topics[r.offset]? <;> rfl

theorem getValue_static {r : ValueRef} {log : Log} (h : r.isTopic = false) (hd : r.dynamic = false) :
    getValue r log =
      .ok { bytes := some (copyInto word (log.data.drop ((r.offset - 4) * word))), alloc := word } := by
  unfold getValue
  simp only [h, hd, Bool.false_eq_true, if_false, fill_eq]

/-- `off` and `len` name the offset word and the length word; a caller with no names of its own passes `rfl rfl` -/
theorem getValue_dynamic {r : ValueRef} {log : Log} (h : r.isTopic = false) (hd : r.dynamic = true)
    {off len : Nat} (hoff : bigOfBytes (copyInto word (log.data.drop ((r.offset - 4) * word))) = off)
    (hlen : bigOfBytes (copyInto word (log.data.drop off)) = len) :
    getValue r log = .ok (
      if (¬ off < 2 ^ 64 ∨ log.data.length < off) ∨ ¬ len < 2 ^ 64 ∨ log.data.length < len then
        { bytes := none, alloc := 2 * word }
      else { bytes := some (copyInto len (log.data.drop (off + word))), alloc := len + 2 * word }) := by
  unfold getValue
  simp only [h, hd, Bool.false_eq_true, if_false, if_true, readWord_eq, hoff]
  by_cases c1 : ¬ off < 2 ^ 64 ∨ log.data.length < off
  · simp only [c1, if_true, true_or]
  · simp only [c1, if_false, false_or, hlen, fill_eq]
    split <;> rfl

theorem getValue_isOk_alloc_le (r : ValueRef) (log : Log) :
    ∃ v, getValue r log = .ok v ∧ v.alloc ≤ 3 * word + log.data.length := by
  cases h : r.isTopic
  · cases hd : r.dynamic
    · exact ⟨_, getValue_static h hd, by dsimp only; omega⟩
    · refine ⟨_, getValue_dynamic h hd rfl rfl, ?_⟩
      split
      · dsimp only; omega
      · dsimp only; omega
  · exact ⟨_, getValue_topic h, Nat.zero_le _⟩

/-- `LogPred.valid`, `topicEqOffsets` and `toFilterAux` each spell this condition out -/
def LogPred.isTopicEq (p : LogPred) : Bool := p.ref.isTopic && decide (p.pred.op = .bytesEq)

theorem LogPred.isTopicEq_iff {p : LogPred} : p.isTopicEq = true ↔ p.ref.isTopic = true ∧ p.pred.op = .bytesEq := by
  rw [LogPred.isTopicEq, Bool.and_eq_true, decide_eq_true_eq]

theorem Definition.valid_iff (d : Definition) :
    d.valid = true ↔ (∀ p ∈ d.preds, p.valid = true) ∧ nodupNat (topicEqOffsets d.preds) = true := by
  simp only [Definition.valid, Bool.and_eq_true, List.all_eq_true]

theorem LogPred.valid_iff (p : LogPred) :
    p.valid = true ↔ (p.ref.valid = true ∧ p.pred.valid = true) ∧
      (p.isTopicEq = true → (p.pred.byteArgs.headD []).length = word) := by
  unfold LogPred.valid LogPred.isTopicEq
  cases p.ref.isTopic && decide (p.pred.op = .bytesEq) <;> simp

theorem ValueRef.offset_le_of_valid (r : ValueRef) (h : r.valid = true) : r.offset ≤ 4294967295 := by
  simp only [ValueRef.valid, Bool.and_eq_true, decide_eq_true_eq] at h
  exact h.1

theorem ValuePred.shape_of_valid (p : ValuePred) (h : p.valid = true) :
    (∃ b, p = ⟨.bytesEq, [], [b]⟩) ∨ ∃ op a, op ≠ .bytesEq ∧ 0 ≤ a ∧ p = ⟨op, [a], []⟩ := by
  obtain ⟨op, ia, ba⟩ := p
  simp only [ValuePred.valid, Bool.and_eq_true, decide_eq_true_eq, List.all_eq_true] at h
  obtain ⟨⟨hi, hb⟩, hnn⟩ := h
  by_cases hop : op = .bytesEq
  · subst hop
    obtain rfl := List.length_eq_zero_iff.1 hi
    obtain ⟨b, rfl⟩ := List.length_eq_one_iff.1 hb
    exact .inl ⟨b, rfl⟩
  · have hargs : op.numIntArgs = 1 ∧ op.numByteArgs = 0 := by
      cases op with
      | bytesEq => exact absurd rfl hop
      | _ => exact ⟨rfl, rfl⟩
    obtain ⟨a, rfl⟩ := List.length_eq_one_iff.1 (hi.trans hargs.1)
    obtain rfl := List.length_eq_zero_iff.1 (hb.trans hargs.2)
    exact .inr ⟨op, a, hop, hnn a (by simp), rfl⟩

theorem LogPred.topicEq_arg (p : LogPred) (hv : p.valid = true) (hte : p.isTopicEq = true) :
    ∃ t, p.pred.byteArgs = [t] ∧ t.length = word := by
  obtain ⟨⟨_, hp⟩, hw⟩ := p.valid_iff.1 hv
  have hop := (LogPred.isTopicEq_iff.1 hte).2
  rcases p.pred.shape_of_valid hp with ⟨b, hb⟩ | ⟨op, a, hne, _, hb⟩
  · have := hw hte
    rw [hb] at this ⊢
    exact ⟨b, rfl, this⟩
  · rw [hb] at hop
    exact absurd hop hne

theorem matchValue_isOk (p : ValuePred) (h : p.valid = true) (v : Option Bytes) :
    ∃ b, p.matchValue v = .ok b := by
  rcases p.shape_of_valid h with ⟨b, rfl⟩ | ⟨op, a, hop, _, rfl⟩
  · exact ⟨_, rfl⟩
  · cases op with
    | bytesEq => exact absurd rfl hop
    | _ => exact ⟨_, rfl⟩

theorem matchPreds_isOk (ps : List LogPred) (h : ∀ p ∈ ps, p.valid = true) (log : Log) :
    ∃ b, matchPreds ps log = .ok b := by
  induction ps with
  | nil => exact ⟨true, rfl⟩
  | cons p rest ih =>
    obtain ⟨v, hv, _⟩ := getValue_isOk_alloc_le p.ref log
    obtain ⟨b, hb⟩ := matchValue_isOk p.pred (p.valid_iff.1 (h p (by simp))).1.2 v.bytes
    simp only [matchPreds, LogPred.matchLog, hv, hb]
    cases b
    · exact ⟨false, rfl⟩
    · exact ih (fun q hq => h q (List.mem_cons_of_mem _ hq))

theorem matchPreds_eq_true_iff (ps : List LogPred) (log : Log) :
    matchPreds ps log = .ok true ↔ ∀ p ∈ ps, p.matchLog log = .ok true := by
  fun_induction matchPreds ps log with
  | case1 => simp
  | case2 p rest log h | case3 p rest log h => simp [h]
  | case4 p rest log h ih => simp [h, ih]

theorem matchDef_eq_true_iff (d : Definition) (log : Log) :
    matchDef d log = .ok true ↔ log.address = d.contract ∧ ∀ p ∈ d.preds, p.matchLog log = .ok true := by
  fun_cases matchDef d log with
  | case1 h => simp [h]
  | case2 h => rw [matchPreds_eq_true_iff, Decidable.not_not.1 h, eq_self, true_and]

theorem topicEq_match {p : LogPred} {log : Log} {t : Bytes} (hte : p.isTopicEq = true)
    (harg : p.pred.byteArgs[0]? = some t) (hlen : t.length = word)
    (hm : p.matchLog log = .ok true) : log.topics[p.ref.offset]? = some t := by
  obtain ⟨htop, hop⟩ := LogPred.isTopicEq_iff.1 hte
  unfold LogPred.matchLog at hm
  rw [getValue_topic htop] at hm
  simp only [ValuePred.matchValue, hop, harg, Access.ok.injEq, decide_eq_true_eq] at hm
  subst hm
  -- a missing topic reads as the empty string, which is not a word long
  cases htp : log.topics[p.ref.offset]? with
  | none =>
    rw [htp] at hlen
    cases hlen
  | some x => rfl

theorem getD_pad {α : Type} (l : List α) (d : α) (k j : Nat) :
    (l ++ List.replicate k d).getD j d = l.getD j d := by
  simp only [List.getD_eq_getElem?_getD, List.getElem?_append, List.getElem?_replicate]
  split
  · rfl
  · rw [List.getElem?_eq_none (by omega)]
    split <;> rfl

theorem getD_pad_set {α : Type} (l : List α) (d : α) (i j : Nat) (v : α) :
    ((l ++ List.replicate (i + 1 - l.length) d).set i v).getD j d = if i = j then v else l.getD j d := by
  by_cases h : i = j
  · subst h
    rw [if_pos rfl, List.getD_eq_getElem?_getD,
      List.getElem?_set_self (by simp only [List.length_append, List.length_replicate]; omega)]
    rfl
  · rw [if_neg h, List.getD_eq_getElem?_getD, List.getElem?_set_ne h, ← List.getD_eq_getElem?_getD, getD_pad]

/-- Each position of the filter is a wildcard or holds exactly the log's topic there; go-ethereum also wants the
    log to have at least as many topics as the filter has positions. -/
def Admits (ts : List (List Bytes)) (lt : List Bytes) : Prop :=
  ts.length ≤ lt.length ∧ ∀ i, ts.getD i [] = [] ∨ ts.getD i [] = (lt[i]?).toList

theorem Admits.nil (lt : List Bytes) : Admits [] lt := ⟨Nat.zero_le _, fun _ => .inl rfl⟩

theorem Admits.set {ts : List (List Bytes)} {lt : List Bytes} (h : Admits ts lt) (i : Nat) (t : Bytes)
    (ht : lt[i]? = some t) : Admits ((ts ++ List.replicate (i + 1 - ts.length) []).set i [t]) lt := by
  have hi : i < lt.length := (List.getElem?_eq_some_iff.1 ht).1
  refine ⟨?_, fun j => ?_⟩
  · have := h.1
    simp only [List.length_set, List.length_append, List.length_replicate]
    omega
  · rw [getD_pad_set]
    by_cases hij : i = j
    · subst hij
      rw [if_pos rfl, ht]
      exact .inr rfl
    · rw [if_neg hij]
      exact h.2 j

theorem Admits.passes {ts : List (List Bytes)} {lt : List Bytes} (h : Admits ts lt) :
    passesTopics ts lt = true := by
  fun_induction passesTopics ts lt with
  | case1 => rfl
  | case2 => exact absurd h.1 (Nat.not_succ_le_zero _)
  | case3 alts rest t lts ih =>
    have h0 : alts = [] ∨ alts = [t] := h.2 0
    rw [ih ⟨Nat.le_of_succ_le_succ h.1, fun i => h.2 (i + 1)⟩, Bool.and_true]
    rcases h0 with rfl | rfl <;> simp

theorem toFilterAux_admits (ps : List LogPred) (log : Log) (hm : ∀ p ∈ ps, p.matchLog log = .ok true)
    (topics ts : List (List Bytes)) (h : toFilterAux ps topics = some ts) (hadm : Admits topics log.topics) :
    Admits ts log.topics := by
  fun_induction toFilterAux ps topics with
  | case1 => cases h; exact hadm
  | case2 | case3 | case4 => cases h  -- the three refusals
  -- a topic-equality predicate whose word-long argument `t` goes to the free position `i`: since the predicate
  -- matches, `t` is the log's topic there (`topicEq_match`), so the padded list with `t` set is still admitted
  | case5 p rest topics hte i padded hfree t harg hlen ih =>
    exact ih (fun q hq => hm q (List.mem_cons_of_mem _ hq)) h
      (hadm.set _ t (topicEq_match hte harg (Decidable.not_not.1 hlen) (hm p (by simp))))
  -- any other predicate passes the list on
  | case6 p rest topics _ ih => exact ih (fun q hq => hm q (List.mem_cons_of_mem _ hq)) h hadm

theorem toFilterAux_exists (ps : List LogPred) (hv : ∀ p ∈ ps, p.valid = true) (topics : List (List Bytes))
    (hnd : nodupNat (topicEqOffsets ps) = true)
    (hfree : ∀ i ∈ topicEqOffsets ps, topics.getD i [] = []) :
    ∃ ts, toFilterAux ps topics = some ts := by
  -- the three refusals cannot happen: the position is free (`hfree`), and a valid topic test has one word as argument
  fun_induction toFilterAux ps topics with
  | case1 topics => exact ⟨topics, rfl⟩
  | case2 p rest topics hte i padded hocc =>
    rw [topicEqOffsets, List.filter_cons, if_pos hte] at hfree
    rw [getD_pad, hfree i List.mem_cons_self] at hocc
    exact absurd rfl hocc
  | case3 p rest topics hte i padded hfree' harg =>
    obtain ⟨t, ht, -⟩ := p.topicEq_arg (hv p List.mem_cons_self) hte
    rw [ht] at harg
    cases harg
  | case4 p rest topics hte i padded hfree' t harg hlen =>
    obtain ⟨t', ht, hl⟩ := p.topicEq_arg (hv p List.mem_cons_self) hte
    rw [ht] at harg
    cases harg
    exact absurd hl hlen
  | case5 p rest topics hte i padded hfree' t harg hlen ih =>
    rw [topicEqOffsets, List.filter_cons, if_pos hte] at hnd hfree
    simp only [List.map_cons, nodupNat, Bool.and_eq_true, Bool.not_eq_true', List.contains_eq_mem,
      decide_eq_false_iff_not] at hnd
    refine ih (fun q hq => hv q (List.mem_cons_of_mem _ hq)) hnd.2 fun j hj => ?_
    rw [getD_pad_set, if_neg fun e : i = j => hnd.1 (e.symm ▸ hj : i ∈ _)]
    exact hfree j (List.mem_cons_of_mem _ hj)
  | case6 p rest topics hte ih =>
    rw [topicEqOffsets, List.filter_cons, if_neg hte] at hnd hfree
    exact ih (fun q hq => hv q (List.mem_cons_of_mem _ hq)) hnd hfree

end Shutter.TriggerDef
