/-
No result of the shuttermint model depends on the order in which Go ranges over a map.  The range sites are the
four of `Generated.AppFacts.mapRanges`: the votes map (`outcome_canonical`) and the three of `EndBlock`
(`updates_canonical`).  Every call is shown equal to the same call in the canonical order (`stepWith_canonical`).
-/
import Shutter.Proofs.Powermap
import Shutter.Proofs.AppFrame
import Shutter.Proofs.Voting

namespace Shutter.App
open Shutter Shutter.App.App

/- The order-taking functions are shown equal as functions: `Voting.outcome o` is a closed term, so `rw` reaches
   it under the binders of the handlers, where `simp only` with the pointwise equation has to traverse them. -/
theorem outcome_canonical {T : Type} {o : Order} (ho : o.Valid) :
    @Voting.outcome T o = Voting.outcome Order.canonical := by
  funext v r
  rw [outcome_eq ho, outcome_eq Order.canonical_valid]

theorem deliverMessage_canonical {o : Order} (ho : o.Valid) : deliverMessage o = deliverMessage Order.canonical := by
  funext a sender p
  -- only the two handlers that count votes take the order
  cases p with
  | batchConfig => unfold deliverMessage deliverBatchConfig; rw [outcome_canonical ho]
  | dkgResult => unfold deliverMessage deliverDKGResult maybeStartEon; rw [outcome_canonical ho]
  | _ => rfl

/-- The only well-formedness order independence needs: votes maps are only counted, which needs no distinct keys;
    the power maps are looked up. -/
def WF (a : App) : Prop := (AMap.keys a.validators).Nodup

theorem currentValidators_nodup (a : App) (h : WF a) : (AMap.keys a.currentValidators).Nodup := by
  fun_cases currentValidators a with
  | case1 => exact AMap.keys_foldl_nodup (fun pm k h => by split <;> exact AMap.keys_insert_nodup _ h) List.nodup_nil
  | case2 => exact h

/-- the three range sites of `EndBlock` (both loops of the diff, and `ValidatorUpdates`) -/
theorem updates_canonical {o : Order} (ho : o.Valid) {oldm newm : AMap PubKey Int}
    (h₁ : (AMap.keys oldm).Nodup) (h₂ : (AMap.keys newm).Nodup) :
    validatorUpdatesOn (o.power (diffPowermapsOn oldm newm (o.power oldm) (o.power newm))) =
      validatorUpdatesOn (diffPowermapsOn oldm newm oldm newm) := by
  have hd := keys_diff_nodup oldm newm (o.power oldm) (o.power newm)
  refine sortByKey_eq_of_get?_eq (((ho.power_perm _).map _).nodup_iff.2 hd) (keys_diff_nodup ..) fun k => ?_
  rw [AMap.get?_eq_of_perm (ho.power_perm _) hd,
    get?_diff (listing_of_perm h₁ (ho.power_perm _)) (listing_of_perm h₂ (ho.power_perm _)),
    get?_diff (listing_of_perm h₁ (.refl _)) (listing_of_perm h₂ (.refl _))]

theorem stepWith_canonical {o : Order} (ho : o.Valid) (a : App) (hwf : WF a) (op : Op) :
    a.stepWith o op = a.step op := by
  cases op with
  | deliver tx =>
    unfold App.step App.stepWith deliverTx
    rw [deliverMessage_canonical ho]
  | endBlock h =>
    unfold App.step App.stepWith endBlock
    dsimp only
    -- `currentValidators` is taken after the loop has updated `configs`, which `WF` does not look at
    have hnew := fun cfgs => currentValidators_nodup { a with configs := cfgs } hwf
    rw [updates_canonical ho hwf (hnew _)]
    rfl
  | _ => rfl

theorem stepWith_WF (o : Order) {a : App} (hwf : WF a) (op : Op) : WF (a.stepWith o op).1 := by
  rcases stepWith_cases o a op with h | ⟨c, h, -⟩ | ⟨cfgs, ht, -, h⟩ | ⟨s, c, n, p, -, h⟩ <;> rw [h]
  · exact hwf
  · exact hwf
  · exact currentValidators_nodup { a with configs := cfgs } hwf
  · unfold WF; rw [(deliverMessage_keeps ..).2]; exact hwf

theorem runWith_eq_run (a : App) (hwf : WF a) (ops : List (Order × Op))
    (hv : ∀ p ∈ ops, p.1.Valid) : a.runWith ops = a.run (ops.map (·.2)) := by
  unfold App.run
  induction ops generalizing a with
  | nil => rfl
  | cons p rest ih =>
    obtain ⟨o, op⟩ := p
    simp only [List.map_cons, App.runWith]
    rw [stepWith_canonical (hv (o, op) List.mem_cons_self) a hwf op, App.step,
      ih _ (stepWith_WF Order.canonical hwf op) (fun p hp => hv p (List.mem_cons_of_mem _ hp))]

theorem startDKG_validators (a : App) (c : BatchConfig) : (a.startDKG c).1.validators = a.validators := rfl

end Shutter.App
