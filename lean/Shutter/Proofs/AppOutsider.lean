/-
A payload from a sender that is a keyper in no configuration is refused and changes nothing
(`deliverMessage_outsider`), given `DInv`: every DKG record's configuration consists of known keypers, which every
call keeps (`runWith_DInv`).
-/
import Shutter.Proofs.AppFrame

namespace Shutter.App
open Shutter Shutter.App.App

def DInv (a : App) : Prop :=
  ∀ e ∈ a.dkgs, ∀ k, e.2.config.isKeyper k = true → a.isKeyper k = true

theorem DInv_of {a a' : App} (inv : DInv a)
    (hk : ∀ k, a.isKeyper k = true → a'.isKeyper k = true)
    (hd : ∀ e ∈ a'.dkgs, (∃ e' ∈ a.dkgs, e'.2.config = e.2.config) ∨
      (∀ k, e.2.config.isKeyper k = true → a'.isKeyper k = true)) : DInv a' := by
  intro e he k hkk
  rcases hd e he with ⟨e', he', hc⟩ | h
  · exact hk k (inv e' he' k (hc ▸ hkk))
  · exact h k hkk

theorem DInv_of_core {a a' : App} (inv : DInv a)
    (hc : a'.configs.map BatchConfig.core = a.configs.map BatchConfig.core) (hd : a'.dkgs = a.dkgs) : DInv a' :=
  DInv_of inv (fun k hk => (isKeyper_eq_of_core hc k).trans hk) fun e he => .inl ⟨e, hd ▸ he, rfl⟩

theorem DInv_update {a : App} (inv : DInv a) {eon : Nat} {d d' : DKG} (hd : a.dkgs.get? eon = some d)
    (hcfg : d'.config = d.config) : DInv { a with dkgs := a.dkgs.insert eon d' } :=
  DInv_of inv (fun _ hk => hk) fun e he => by
    rcases AMap.eq_or_mem_of_mem_insert he with rfl | h
    · exact .inl ⟨(eon, d), AMap.mem_of_get? hd, hcfg.symm⟩
    · exact .inl ⟨e, h, rfl⟩

theorem startDKG_DInv {a : App} (inv : DInv a) {c : BatchConfig}
    (hc : ∀ k, c.isKeyper k = true → a.isKeyper k = true) : DInv (a.startDKG c).1 :=
  DInv_of inv (fun _ hk => hk) fun e he => by
    rcases AMap.eq_or_mem_of_mem_insert he with rfl | h
    · exact .inr hc
    · exact .inl ⟨e, h, rfl⟩

theorem applyReg_err (a : App) (eon : Nat) (ev : Event) : a.applyReg eon .err ev = (a, errResp) := rfl

/-- every outcome but `refused` needs a keyper: of the newest configuration, of a DKG record's configuration (hence
    `inv`), or of any configuration -/
theorem deliverMessage_outsider (o : Order) {a : App} (inv : DInv a) {s : Addr}
    (hout : a.isKeyper s = false) (p : Payload) :
    (a.deliverMessage o s p).1 = a ∧ (a.deliverMessage o s p).2.refused := by
  have hno : ¬ a.isKeyper s = true := by rw [hout]; nofun
  obtain ⟨F, h, e⟩ := deliverMessage_cases o a s p
  rw [e]
  cases h with
  | refused hr => exact ⟨rfl, Resp.refused_of hr⟩
  | blockSeen hk | checkIn hk => exact absurd hk hno
  | register _ hd hk | dkgVote hd hk | restart hd hk => exact absurd (inv _ (AMap.mem_of_get? hd) s hk) hno
  | vote _ _ hk | accept _ _ hk => exact absurd (isKeyper_of_lastConfig hk) hno

theorem deliverMessage_DInv (o : Order) {a : App} (inv : DInv a) (s : Addr) (p : Payload) :
    DInv (a.deliverMessage o s p).1 := by
  obtain ⟨F, h, e⟩ := deliverMessage_cases o a s p
  rw [e]
  cases h with
  | refused => exact inv
  | blockSeen | checkIn | vote => exact DInv_of_core inv rfl rfl
  | register _ hd _ hc => exact DInv_update inv hd hc
  | dkgVote hd => exact DInv_update inv hd rfl
  | restart hd =>
    apply startDKG_DInv
    · exact DInv_update inv hd rfl
    · exact inv _ (AMap.mem_of_get? hd)
  | @accept _ _ _ _ bc =>
    apply startDKG_DInv
    · exact DInv_of inv (fun k hk => (isKeyper_append a bc k).trans (by rw [hk]; rfl)) fun e he => .inl ⟨e, he, rfl⟩
    · exact fun k hk => (isKeyper_append a bc k).trans (by rw [hk, Bool.or_true])

theorem stepWith_DInv (o : Order) {a : App} (inv : DInv a) (op : Op) : DInv (a.stepWith o op).1 := by
  rcases stepWith_cases o a op with h | ⟨c, h, -⟩ | ⟨cfgs, ht, hcore, h⟩ | ⟨s, c, n, p, -, h⟩ <;> rw [h]
  · exact inv
  · exact DInv_of_core inv rfl rfl
  · exact DInv_of_core inv hcore rfl
  · apply deliverMessage_DInv
    exact DInv_of_core inv rfl rfl

theorem init_DInv {chainId : String} {keypers : List Addr} {threshold initialEon : Nat} {fork : Fork}
    {devMode : Bool} {validators : List (PubKey × Int)} :
    DInv (App.init chainId keypers threshold initialEon fork devMode validators) := nofun

theorem runWith_DInv {a : App} (inv : DInv a) (ops : List (Order × Op)) : DInv (a.runWith ops).1 :=
  runWith_invariant (P := DInv) (Q := fun _ => True) (fun _ o op _ inv => stepWith_DInv o inv op) inv
    fun _ _ => trivial

end Shutter.App
