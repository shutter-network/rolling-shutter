/-
Big-endian numerals in a base `b`: `ofBE b` is the fold `acc * b + d` that a model writes out for its base, `toBE b`
the digits without a leading zero, `ofBE_toBE` the round trip.  And `inj_of_decode_encode`: a decoder that reads
back every encoding makes the encoder injective.
-/
namespace Shutter.Codec

theorem inj_of_decode_encode {α β : Type} {P : α → Prop} {enc : α → β} {dec : β → Option α}
    (rt : ∀ a, P a → dec (enc a) = some a) {a b : α} (ha : P a) (hb : P b) (h : enc a = enc b) : a = b :=
  Option.some.inj ((rt a ha).symm.trans ((congrArg dec h).trans (rt b hb)))

def ofBE (b : Nat) (ds : List Nat) : Nat := ds.foldl (fun acc d => acc * b + d) 0

theorem ofBE_snoc (b : Nat) (ds : List Nat) (d : Nat) : ofBE b (ds ++ [d]) = ofBE b ds * b + d := by
  simp [ofBE, List.foldl_append]

def toBE (b n : Nat) : List Nat :=
  if 1 < b ∧ n ≠ 0 then toBE b (n / b) ++ [n % b] else []
decreasing_by exact Nat.div_lt_self (by omega) (by omega)

theorem toBE_zero (b : Nat) : toBE b 0 = [] := by rw [toBE]; simp

theorem toBE_pos {b : Nat} (hb : 1 < b) (n : Nat) (h : n ≠ 0) : toBE b n = toBE b (n / b) ++ [n % b] := by
  rw [toBE, if_pos ⟨hb, h⟩]

theorem ofBE_toBE {b : Nat} (hb : 1 < b) (n : Nat) : ofBE b (toBE b n) = n := by
  fun_induction toBE b n with
  | case1 n _ ih => rw [ofBE_snoc, ih, Nat.mul_comm, Nat.div_add_mod]
  | case2 n h =>
    obtain rfl : n = 0 := by omega
    rfl

theorem lt_of_mem_toBE {b : Nat} (hb : 1 < b) (n : Nat) : ∀ d ∈ toBE b n, d < b := by
  fun_induction toBE b n with
  | case1 n _ ih =>
    intro d hd
    rcases List.mem_append.1 hd with h | h
    · exact ih d h
    · rw [List.mem_singleton.1 h]; exact Nat.mod_lt _ (by omega)
  | case2 => simp

end Shutter.Codec
