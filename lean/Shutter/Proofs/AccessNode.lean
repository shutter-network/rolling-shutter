/- The access node's store after any sequence of chain-sync events, and its validator as a conjunction. -/
import Shutter.Model.AccessNode

namespace Shutter.AccessNode

theorem Map.get_put (m : Map) (k v k' : Nat) : (m.put k v).get k' = if k = k' then some v else m.get k' := by
  unfold Map.put Map.get
  rw [List.find?_cons]
  by_cases h : k = k'
  · simp [h]
  · have hk : (k == k') = false := by simpa using h
    rw [hk, if_neg h, List.find?_filter]
    show (List.find? _ m).map _ = _
    congr 2
    -- an entry for `k'` is not one for `k`, so the filter lets it through
    funext e
    by_cases he : e.1 = k'
    · simp [he, Ne.symm h]
    · simp [he]

/-- the eon key last announced for `e` (`init` if none) -/
def lastKey (evs : List Ev) (e : Nat) (init : Option Nat) : Option Nat :=
  evs.foldl (fun cur ev => match ev with
    | .key e' id => if e' = e then some id else cur
    | .set _ _ => cur) init

/-- the keyper set last announced for `e` (`init` if none) -/
def lastSet (evs : List Ev) (e : Nat) (init : Option Nat) : Option Nat :=
  evs.foldl (fun cur ev => match ev with
    | .set e' id => if e' = e then some id else cur
    | .key _ _ => cur) init

theorem get_keys_run (evs : List Ev) (s : Store) (e : Nat) :
    (s.run evs).keys.get e = lastKey evs e (s.keys.get e) := by
  -- looking up `e` commutes with one event, hence with the fold
  refine (List.foldl_hom (fun s : Store => s.keys.get e) (g₁ := Store.step) (init := s) (l := evs) fun s ev => ?_).symm
  cases ev with
  | key e' id => exact (Map.get_put _ _ _ _).symm
  | set e' id => rfl

theorem get_sets_run (evs : List Ev) (s : Store) (e : Nat) :
    (s.run evs).sets.get e = lastSet evs e (s.sets.get e) := by
  refine (List.foldl_hom (fun s : Store => s.sets.get e) (g₁ := Store.step) (init := s) (l := evs) fun s ev => ?_).symm
  cases ev with
  | set e' id => exact (Map.get_put _ _ _ _).symm
  | key e' id => rfl

theorem lastKey_lastSet_of_eon_ne (evs : List Ev) (e : Nat) (k s : Option Nat) (h : ∀ ev ∈ evs, ev.eon ≠ e) :
    lastKey evs e k = k ∧ lastSet evs e s = s := by
  induction evs with
  | nil => exact ⟨rfl, rfl⟩
  | cons ev rest ih =>
    obtain ⟨ihk, ihs⟩ := ih fun x hx => h x (List.mem_cons_of_mem _ hx)
    have hne := h ev List.mem_cons_self
    cases ev with
    | key e' id => exact ⟨(congrArg (lastKey rest e) (if_neg hne)).trans ihk, ihs⟩
    | set e' id => exact ⟨ihk, (congrArg (lastSet rest e) (if_neg hne)).trans ihs⟩

/-- `validate` with its two lookups already made (`validate_eq`) -/
def validateWith (inst max : Nat) (k? ks? : Option Nat) (m : Msg) : Bool :=
  if m.inst ≠ inst then false
  else if m.eon > maxInt64 then false
  else if m.nkeys = 0 then false
  else if m.nkeys > max then false
  else
    match k? with
    | none => false
    | some k =>
      if !m.keysOK k then false
      else if !m.basic then false
      else
        match ks? with
        | none => false
        | some ks => m.sigsOK ks

theorem validate_eq (inst max : Nat) (s : Store) (m : Msg) :
    validate inst max s m = validateWith inst max (s.keys.get m.eon) (s.sets.get m.eon) m := rfl

theorem validateWith_iff (inst max : Nat) (k? ks? : Option Nat) (m : Msg) :
    validateWith inst max k? ks? m = true ↔
      m.inst = inst ∧ m.eon ≤ maxInt64 ∧ m.nkeys ≠ 0 ∧ m.nkeys ≤ max ∧ (∃ k, k? = some k ∧ m.keysOK k = true) ∧
      m.basic = true ∧ ∃ ks, ks? = some ks ∧ m.sigsOK ks = true := by
  cases k? <;> cases ks? <;> simp [validateWith]

end Shutter.AccessNode
