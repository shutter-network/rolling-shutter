/-
Round trips of the string codecs of `shutterevents`: decimal `uint64`, hex bytes, `0x` byte strings, comma lists.
-/
import Shutter.Model.Events
import Shutter.Proofs.Codec

namespace Shutter.Events
open Shutter.Codec

theorem mapOpt_map {α β : Type} {f : α → Option β} {g : β → α} {l : List β} (h : ∀ x ∈ l, f (g x) = some x) :
    mapOpt f (l.map g) = some l := by
  induction l with
  | nil => rfl
  | cons a l ih =>
    simp only [List.map_cons, mapOpt, h a List.mem_cons_self, ih (fun x hx => h x (List.mem_cons_of_mem _ hx))]

theorem digitVal_digitChar : ∀ d, d < 10 → digitVal? (digitChar d) = some d := by decide

/-- `0` is written `0`, not as the empty text: hence the last digit apart -/
theorem digitsLE_reverse (fuel n : Nat) (h : n < fuel) :
    (digitsLE fuel n).reverse = toBE 10 (n / 10) ++ [n % 10] := by
  fun_induction digitsLE fuel n with
  | case1 => exact absurd h (Nat.not_lt_zero _)
  | case2 _ n hn =>
    rw [Nat.div_eq_of_lt hn, Nat.mod_eq_of_lt hn, toBE_zero]
    rfl
  | case3 _ n hn ih =>
    have hpos : n / 10 ≠ 0 := Nat.ne_of_gt (Nat.div_pos (Nat.not_lt.1 hn) (by decide))
    rw [List.reverse_cons, ih (by omega), ← toBE_pos (by decide) _ hpos]

theorem decodeUint_encodeUint {n : Nat} (h : n < 2 ^ 64) : decodeUint (encodeUint n) = some n := by
  have hdig : ∀ d ∈ toBE 10 (n / 10) ++ [n % 10], digitVal? (digitChar d) = some d := by
    intro d hd
    refine digitVal_digitChar d ?_
    rcases List.mem_append.1 hd with hd | hd
    · exact lt_of_mem_toBE (by decide) _ d hd
    · rw [List.mem_singleton.1 hd]
      exact Nat.mod_lt _ (by decide)
  have hval : ofDigitsBE (toBE 10 (n / 10) ++ [n % 10]) = n := by
    rw [show ofDigitsBE = ofBE 10 from rfl, ofBE_snoc, ofBE_toBE (by decide), Nat.div_add_mod']
  unfold decodeUint encodeUint
  rw [digitsLE_reverse _ _ n.lt_succ_self, if_neg (by simp), mapOpt_map hdig]
  simp only [hval, h, if_true]

theorem hexVal_hexChar : ∀ d, d < 16 → hexVal? (hexChar d) = some d := by decide

theorem decodeHexBytes_encodeHexBytes (b : Bytes) (h : ∀ x ∈ b, x < 256) :
    decodeHexBytes (encodeHexBytes b) = some b := by
  induction b with
  | nil => rfl
  | cons x rest ih =>
    have hx : x < 256 := h x List.mem_cons_self
    simp only [encodeHexBytes, decodeHexBytes]
    rw [hexVal_hexChar (x / 16) (Nat.div_lt_of_lt_mul hx), hexVal_hexChar (x % 16) (Nat.mod_lt _ (by decide)),
      ih (fun y hy => h y (List.mem_cons_of_mem _ hy))]
    simp only [Nat.div_add_mod']

theorem decode0x_encode0x (b : Bytes) (h : ∀ x ∈ b, x < 256) : decode0x (encode0x b) = some b := by
  simp only [encode0x, decode0x]
  exact decodeHexBytes_encodeHexBytes b h

theorem splitComma_prefix (x : List Char) (hx : ',' ∉ x) (tail f : List Char) (fs : List (List Char))
    (h : splitComma tail = f :: fs) : splitComma (x ++ tail) = (x ++ f) :: fs := by
  induction x with
  | nil => exact h
  | cons c cs ih =>
    simp only [List.mem_cons, not_or] at hx
    have hc : c ≠ ',' := fun e => hx.1 e.symm
    simp only [List.cons_append, splitComma, hc, if_false, ih hx.2]

theorem splitComma_joinComma (xs : List (List Char)) (hne : xs ≠ []) (h : ∀ x ∈ xs, ',' ∉ x) :
    splitComma (joinComma xs) = xs := by
  fun_induction joinComma xs with
  | case1 => exact absurd rfl hne
  | case2 x => simpa using splitComma_prefix x (h x (by simp)) [] [] [] rfl
  | case3 x y ys ih =>
    have := splitComma_prefix x (h x (by simp)) (',' :: joinComma (y :: ys)) [] (splitComma (joinComma (y :: ys)))
      (by simp only [splitComma, if_true])
    rw [this, List.append_nil, ih (by simp) (fun z hz => h z (List.mem_cons_of_mem _ hz))]

/-- `hdec`: the element decoder accepts only comma-free texts, so splitting at the commas finds the elements again,
    and no empty text, which stands for the empty list. -/
theorem decodeList_encodeList {α : Type} (enc : α → List Char) (dec : List Char → Option α)
    (hdec : ∀ s a, dec s = some a → ',' ∉ s ∧ s ≠ []) (xs : List α) (hrt : ∀ x ∈ xs, dec (enc x) = some x) :
    decodeList dec (encodeList enc xs) = some xs := by
  unfold decodeList encodeList
  cases xs with
  | nil => rfl
  | cons x rest =>
    have hnonempty : (joinComma ((x :: rest).map enc)).isEmpty = false := by
      have hne := (hdec _ _ (hrt x (by simp))).2
      cases rest with
      | nil => simpa [joinComma] using hne
      | cons y ys => simp [joinComma]
    rw [hnonempty]
    simp only [Bool.false_eq_true, if_false]
    rw [splitComma_joinComma _ (by simp) (by
      intro s hs
      obtain ⟨a, ha, rfl⟩ := List.mem_map.1 hs
      exact (hdec _ _ (hrt a ha)).1)]
    exact mapOpt_map hrt

theorem hexVal_comma : hexVal? ',' = none := by decide

theorem decodeHexBytes_no_comma {s : List Char} {b : Bytes} (h : decodeHexBytes s = some b) : ',' ∉ s := by
  fun_induction decodeHexBytes s generalizing b with
  | case1 => simp
  | case2 | case4 => cases h
  -- the equations of `match hexVal? x, hexVal? y, decodeHexBytes rest` are bound last first
  | case3 x y rest vx vy bs hr hy hx ih =>
    simp only [List.mem_cons, not_or]
    refine ⟨fun e => ?_, fun e => ?_, ih hr⟩
    · rw [← e, hexVal_comma] at hx
      cases hx
    · rw [← e, hexVal_comma] at hy
      cases hy

theorem strip0x_comma {s : List Char} (h : ',' ∉ strip0x s) : ',' ∉ s := by
  unfold strip0x at h
  split at h
  · simp only [List.mem_cons, not_or]; exact ⟨by decide, by decide, h⟩
  · simp only [List.mem_cons, not_or]; exact ⟨by decide, by decide, h⟩
  · exact h

theorem decode0x_strip0x {s : List Char} {b : Bytes} (h : decode0x s = some b) :
    decodeHexBytes (strip0x s) = some b ∧ s ≠ [] := by
  revert h
  fun_cases decode0x s with
  | case1 | case2 => exact fun h => ⟨h, List.cons_ne_nil _ _⟩
  | case3 => exact nofun

/-- what `decodeList_encodeList` asks of an element decoder -/
theorem decode0x_listElem (s : List Char) (b : Bytes) (h : decode0x s = some b) : ',' ∉ s ∧ s ≠ [] :=
  ⟨strip0x_comma (decodeHexBytes_no_comma (decode0x_strip0x h).1), (decode0x_strip0x h).2⟩

theorem parseHexAddress_listElem (s : List Char) (a : Bytes) (h : parseHexAddress s = some a) :
    ',' ∉ s ∧ s ≠ [] := by
  unfold parseHexAddress at h
  split at h
  · rename_i hlen
    refine ⟨strip0x_comma (decodeHexBytes_no_comma h), ?_⟩
    intro hs
    subst hs
    simp [strip0x] at hlen
  · cases h

theorem decodeByteSeq_encodeByteSeq (v : List Bytes) (h : ∀ b ∈ v, ∀ x ∈ b, x < 256) :
    decodeByteSeq (encodeByteSeq v) = some v :=
  decodeList_encodeList encode0x decode0x decode0x_listElem v fun b hb => decode0x_encode0x b (h b hb)

end Shutter.Events
