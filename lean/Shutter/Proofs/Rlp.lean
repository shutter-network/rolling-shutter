/-
Round trip of the RLP codec of `Model/TriggerDef.lean`.  Byte layer: decoding the encoding of any item tree returns
the tree and consumes exactly its bytes.  Item layer: `ofItem?` reads back `toItem` for valid predicates and
definitions; `definition_small` is the size bound under which the byte layer applies.
-/
import Shutter.Proofs.TriggerDef
import Shutter.Proofs.Codec

namespace Shutter.TriggerDef
open List

/-- big-endian base-256 digits, no leading zero (specification of `natBytes`) -/
def be (n : Nat) : Bytes := Codec.toBE 256 n

theorem be_zero : be 0 = [] := Codec.toBE_zero 256

theorem be_pos (n : Nat) (h : n ≠ 0) : be n = be (n / 256) ++ [n % 256] := Codec.toBE_pos (by decide) n h

theorem bigOfBytes_be (n : Nat) : bigOfBytes (be n) = n := Codec.ofBE_toBE (by decide) n

theorem natBytes_go {fuel n : Nat} (acc : Bytes) (h : n < fuel) : natBytes.go fuel n acc = be n ++ acc := by
  fun_induction natBytes.go fuel n acc with
  | case1 => omega
  | case2 => simp [be_zero]
  | case3 n _ _ hn ih =>
    rw [ih (by omega), be_pos n hn]
    simp

theorem natBytes_eq (n : Nat) : natBytes n = be n := by
  unfold natBytes
  rw [natBytes_go _ n.lt_succ_self]
  simp

theorem be_head (n d : Nat) (h : n = 0 → d ≠ 0) : (be n).headD d ≠ 0 := by
  unfold be
  fun_induction Codec.toBE 256 n generalizing d with
  | case1 n hn ih =>
    -- the last digit is the head only if there are no digits before it
    have hd : ∀ l : Bytes, (l ++ [n % 256]).headD d = l.headD (n % 256) := fun l => by cases l <;> rfl
    rw [hd]
    exact ih _ (by omega)
  | case2 n hn => exact h (by simpa using hn)

theorem be_length (k n : Nat) (h : n < 256 ^ k) : (be n).length ≤ k := by
  induction k generalizing n with
  | zero =>
    have : n = 0 := by simpa using h
    subst this; simp [be_zero]
  | succ k ih =>
    by_cases hn : n = 0
    · subst hn; simp [be_zero]
    · have hlt : n / 256 < 256 ^ k := Nat.div_lt_of_lt_mul (by rwa [Nat.pow_succ, Nat.mul_comm] at h)
      rw [be_pos n hn, length_append]
      exact Nat.add_le_add_right (ih _ hlt) 1

theorem be_length_pos (n : Nat) (h : n ≠ 0) : 1 ≤ (be n).length := by
  rw [be_pos n h]; simp

theorem decodeItem_cons (f b : Nat) (rest : Bytes) :
    decodeItem (f + 1) (b :: rest) = decodeHead b rest (decodeItems f) := rfl
theorem decodeItems_succ (f : Nat) (input : Bytes) (h : input ≠ []) :
    decodeItems (f + 1) input = decodeTail input (decodeItem f) (decodeItems f) := by
  cases input with
  | nil => exact absurd rfl h
  | cons b rest => rfl

/-- `h56` in the form the decoder's test has -/
theorem longLen?_eq_some (n : Nat) (h56 : ¬ n < 56) (tail : Bytes) :
    longLen? (be n).length (be n ++ tail) = some (n, tail) := by
  unfold longLen?
  rw [if_neg (by simp)]
  simp only [take_left, drop_left, bigOfBytes_be]
  rw [if_neg (be_head n 0 (by omega)), if_neg h56]

mutual
/-- every string in the tree is shorter than 2^64 bytes (any Go slice is) -/
def Item.small : Item → Prop
  | .str b => b.length < 256 ^ 8
  | .list is => Item.smalls is
def Item.smalls : List Item → Prop
  | [] => True
  | i :: is => i.small ∧ Item.smalls is
end

theorem Item.smalls_iff (is : List Item) : Item.smalls is ↔ ∀ i ∈ is, i.small := by
  induction is with
  | nil => simp [Item.smalls]
  | cons i is ih => rw [Item.smalls, ih, forall_mem_cons]

mutual
/-- fuel that suffices to decode the encoding of an item -/
def need : Item → Nat
  | .str _ => 1
  | .list is => 1 + needs is
def needs : List Item → Nat
  | [] => 1
  | i :: is => 1 + max (need i) (needs is)
end

theorem header_pos (base len : Nat) : 1 ≤ (header base len).length := by
  unfold header; split <;> simp

theorem header_short (base len : Nat) (h : len < 56) : header base len = [base + len] := by
  rw [header, if_pos h]

/-- `c` is `base + 55` as the numeral the decoder subtracts (183, 247): `c + k - c` then cancels by rewriting -/
theorem header_long (base len c : Nat) (h : ¬ len < 56) (hc : base + 55 = c) :
    header base len = (c + (be len).length) :: be len := by
  rw [header, if_neg h, natBytes_eq, hc]

/-- the string encoder, with the case distinction the decoder makes -/
theorem encodeItem_str (b : Bytes) :
    encodeItem (.str b) = if b.length = 1 ∧ b.headD 0 < 128 then b else header 128 b.length ++ b := by
  match b with
  | [] => simp [encodeItem]
  | [x] => by_cases hx : x < 128 <;> simp [encodeItem, hx]
  | x :: y :: l => simp [encodeItem]

theorem encodeItem_list (is : List Item) :
    encodeItem (.list is) = header 192 (encodeItems is).length ++ encodeItems is := by
  rw [encodeItem]

theorem encodeItems_cons (i : Item) (is : List Item) : encodeItems (i :: is) = encodeItem i ++ encodeItems is := by
  rw [encodeItems]

theorem encodeItem_length_pos (i : Item) : 1 ≤ (encodeItem i).length := by
  cases i with
  | str b =>
    rw [encodeItem_str]
    split
    · rename_i h
      exact Nat.le_of_eq h.1.symm
    · rw [length_append]
      exact Nat.le_add_right_of_le (header_pos 128 _)
  | list is =>
    rw [encodeItem_list, length_append]
    exact Nat.le_add_right_of_le (header_pos 192 _)

theorem decodeItem_str (f : Nat) (b rest : Bytes) (hs : b.length < 256 ^ 8) :
    decodeItem (f + 1) (encodeItem (.str b) ++ rest) = some (.str b, rest) := by
  rw [encodeItem_str]
  by_cases hc : b.length = 1 ∧ b.headD 0 < 128
  · obtain ⟨x, rfl⟩ := length_eq_one_iff.1 hc.1
    rw [if_pos hc, cons_append, decodeItem_cons, decodeHead, if_pos (show x < 128 from hc.2), nil_append]
  rw [if_neg hc]
  by_cases hl : b.length < 56
  · -- first byte `128 + len` in [128, 184): short string
    rw [header_short _ _ hl, cons_append, nil_append, cons_append, decodeItem_cons, decodeHead,
      if_neg (Nat.not_lt.2 (Nat.le_add_right _ _)), if_pos (Nat.add_lt_add_left hl 128)]
    simp only [Nat.add_sub_cancel_left, take_left, drop_left]
    rw [if_neg (by simp), if_neg hc]
  · -- first byte `183 + |be len|` in [184, 192): long string
    have hl8 := be_length 8 b.length hs
    have hl1 := be_length_pos b.length (by omega)
    rw [header_long 128 _ 183 hl rfl, cons_append, cons_append, append_assoc, decodeItem_cons, decodeHead,
      if_neg (by omega), if_neg (by omega), if_pos (by omega), Nat.add_sub_cancel_left, longLen?_eq_some _ hl]
    simp only [take_left, drop_left]
    rw [if_neg (by simp)]

theorem decodeItem_list (f : Nat) (is : List Item) (rest : Bytes)
    (hd : decodeItems f (encodeItems is) = some is) :
    decodeItem (f + 1) (encodeItem (.list is) ++ rest) = some (.list is, rest) := by
  rw [encodeItem_list]
  by_cases hl : (encodeItems is).length < 56
  · -- first byte `192 + len` in [192, 248): short list
    rw [header_short _ _ hl, cons_append, nil_append, cons_append, decodeItem_cons, decodeHead,
      if_neg (by omega), if_neg (by omega), if_neg (Nat.not_lt.2 (Nat.le_add_right _ _)),
      if_pos (Nat.add_lt_add_left hl 192)]
    simp only [Nat.add_sub_cancel_left, take_left, drop_left, hd]
    rw [if_neg (by simp)]
  · -- first byte `247 + |be len|`, 248 or more: long list
    have hl1 := be_length_pos (encodeItems is).length (by omega)
    rw [header_long 192 _ 247 hl rfl, cons_append, cons_append, append_assoc, decodeItem_cons, decodeHead,
      if_neg (by omega), if_neg (by omega), if_neg (by omega), if_neg (by omega), Nat.add_sub_cancel_left,
      longLen?_eq_some _ hl]
    simp only [take_left, drop_left, hd]
    rw [if_neg (by simp)]

/-- By induction on the fuel, as the decoder recurses: `need`/`needs` drop by one from an item to its payload and
    from a payload to its items. -/
theorem decodeItem_encodeItem_fuel (fuel : Nat) :
    (∀ i : Item, i.small → need i ≤ fuel → ∀ rest, decodeItem fuel (encodeItem i ++ rest) = some (i, rest)) ∧
    (∀ is : List Item, Item.smalls is → needs is ≤ fuel → decodeItems fuel (encodeItems is) = some is) := by
  induction fuel with
  | zero =>
    refine ⟨fun i _ hf => ?_, fun is _ hf => ?_⟩
    · cases i <;> rw [need] at hf <;> omega
    · cases is <;> rw [needs] at hf <;> omega
  | succ f ih =>
    refine ⟨fun i hs hf rest => ?_, fun is hs hf => ?_⟩
    · cases i with
      | str b => exact decodeItem_str f b rest hs
      | list is =>
        rw [need] at hf
        exact decodeItem_list f is rest (ih.2 is hs (by omega))
    · cases is with
      | nil => rfl
      | cons i is =>
        rw [needs] at hf
        obtain ⟨hi, his⟩ : need i ≤ f ∧ needs is ≤ f := Nat.max_le.1 (by omega)
        have hne : encodeItem i ++ encodeItems is ≠ [] :=
          append_ne_nil_of_left_ne_nil (ne_nil_of_length_pos (encodeItem_length_pos i)) _
        rw [encodeItems_cons, decodeItems_succ f _ hne, decodeTail, ih.1 i hs.1 hi]
        simp only [ih.2 is hs.2 his]

theorem decodeItems_encode : (is : List Item) → Item.smalls is → (fuel : Nat) → needs is ≤ fuel →
    decodeItems fuel (encodeItems is) = some is :=
  fun is hs fuel hf => (decodeItem_encodeItem_fuel fuel).2 is hs hf

mutual
theorem need_le : (i : Item) → need i ≤ 2 * (encodeItem i).length
  | .str _ => Nat.le_trans (encodeItem_length_pos _) (Nat.le_mul_of_pos_left _ Nat.two_pos)  -- 1 ≤ len ≤ 2 * len
  | .list is => by
    have := needs_le is
    have := header_pos 192 (encodeItems is).length
    rw [need, encodeItem_list, length_append]
    omega
theorem needs_le : (is : List Item) → needs is ≤ 2 * (encodeItems is).length + 1
  | [] => Nat.le_refl 1  -- `needs []` is 1, the encoding is empty
  | i :: is => by
    have := needs_le is
    have := encodeItem_length_pos i
    -- `Nat.max_le` splits the `max`, which `omega` is slow to case on
    rw [needs, encodeItems_cons, length_append, Nat.add_comm 1, Nat.add_le_add_iff_right, Nat.max_le, Nat.mul_add]
    exact ⟨Nat.le_add_right_of_le (need_le i), by omega⟩
end

/-- the fuel is the one `unmarshal` passes -/
theorem decodeItem_encodeItem (i : Item) (hs : i.small) :
    decodeItem (2 * (encodeItem i).length + 2) (encodeItem i) = some (i, []) := by
  have := (decodeItem_encodeItem_fuel (2 * (encodeItem i).length + 2)).1 i hs (Nat.le_add_right_of_le (need_le i)) []
  simpa using this

theorem intOfItem?_natItem (m : Option Nat) (n : Nat) (hm : ∀ k, m = some k → n < 256 ^ k) :
    intOfItem? m (natItem n) = some n := by
  unfold natItem intOfItem?
  rw [natBytes_eq]
  dsimp only
  rw [if_neg (be_head n 1 (fun _ => by decide))]
  cases m with
  | none => simp [bigOfBytes_be]
  | some k =>
    dsimp only
    rw [if_pos (be_length k n (hm k rfl)), bigOfBytes_be]

theorem boolOfItem?_boolItem (b : Bool) : boolOfItem? (boolItem b) = some b := by
  cases b <;> rfl

theorem ValuePred.ofItem?_bytes (b : Bytes) :
    ValuePred.ofItem? (.list [natItem Op.bytesEq.toNat, .str b]) = some ⟨.bytesEq, [], [b]⟩ := rfl

/-- the inner `bind` is how the model's `Nat → Int` coercion under `Option.map` elaborates; `rfl` needs that form -/
theorem ValuePred.ofItem?_int (op : Op) (hop : op ≠ .bytesEq) (x : Item) :
    ValuePred.ofItem? (.list [natItem op.toNat, x]) =
      ((intOfItem? none x).bind fun n => some (n : Int)).map fun v => { op, intArgs := [v], byteArgs := [] } := by
  cases op with
  | bytesEq => exact absurd rfl hop
  | _ => exact rfl

theorem ValuePred.ofItem?_toItem (p : ValuePred) (hv : p.valid = true) : ValuePred.ofItem? p.toItem = some p := by
  rcases p.shape_of_valid hv with ⟨b, rfl⟩ | ⟨op, a, hop, ha, rfl⟩
  · exact ValuePred.ofItem?_bytes b
  · show ValuePred.ofItem? (.list [natItem op.toNat, natItem a.toNat]) = _
    rw [ValuePred.ofItem?_int op hop, intOfItem?_natItem none _ (fun k hk => nomatch hk), Option.bind_some,
      Option.map_some, Int.toNat_of_nonneg ha]

theorem LogPred.ofItem?_toItem (p : LogPred) (hv : p.valid = true) : LogPred.ofItem? p.toItem = some p := by
  obtain ⟨⟨hr, hp⟩, _⟩ := p.valid_iff.1 hv
  have hoff := intOfItem?_natItem (some 8) p.ref.offset (by
    intro k hk
    cases hk
    have := p.ref.offset_le_of_valid hr
    omega)
  simp only [LogPred.toItem, LogPred.ofItem?, boolOfItem?_boolItem, hoff, ValuePred.ofItem?_toItem _ hp,
    Option.bind_eq_bind, Option.bind_some, Option.pure_def]

-- `Model/Events` and `Model/TriggerDef` each define `mapOpt`: the same lemma is in Proofs/Events.lean for the other
theorem mapOpt_map {α β : Type} {f : α → Option β} {g : β → α} {l : List β} (h : ∀ x ∈ l, f (g x) = some x) :
    mapOpt f (l.map g) = some l := by
  induction l with
  | nil => rfl
  | cons a l ih =>
    simp only [map_cons, mapOpt, h a mem_cons_self, ih (fun x hx => h x (mem_cons_of_mem _ hx))]

theorem Definition.ofItem?_toItem (d : Definition) (hv : d.valid = true) (hc : d.contract.length = 20) :
    Definition.ofItem? d.toItem = some d := by
  unfold Definition.toItem Definition.ofItem?
  dsimp only
  rw [if_neg (by simp [hc]), mapOpt_map (fun p hp => LogPred.ofItem?_toItem p ((d.valid_iff.1 hv).1 p hp))]
  rfl

theorem Definition.ofItem?_contract_length {item : Item} {d : Definition} (h : Definition.ofItem? item = some d) :
    d.contract.length = 20 := by
  revert h
  fun_cases Definition.ofItem? item with
  | case1 | case3 => exact nofun
  | case2 c ps hc =>
    intro h
    obtain ⟨preds, _, rfl⟩ := Option.map_eq_some_iff.1 h
    exact Decidable.not_not.1 hc

theorem unmarshal_eq_some_iff (data : Bytes) (d : Definition) :
    unmarshal data = some d ↔
      ∃ rest item, data = version :: rest ∧ decodeItem (2 * rest.length + 2) rest = some (item, []) ∧
        Definition.ofItem? item = some d ∧ d.valid = true := by
  constructor
  · fun_cases unmarshal data with
    | case3 v rest hv item hdec d' hit hvalid =>
      rintro ⟨⟩
      exact ⟨rest, item, by rw [Decidable.not_not.1 hv], hdec, hit, hvalid⟩
    | _ => exact nofun
  · rintro ⟨rest, item, rfl, hdec, hit, hv⟩
    simp only [unmarshal, ne_eq, not_true_eq_false, if_false, hdec, hit, hv, if_true]

theorem natItem_small (n : Nat) (h : n < 256 ^ 32) : (natItem n).small := by
  rw [natItem, Item.small, natBytes_eq]
  exact Nat.lt_of_le_of_lt (be_length 32 n h) (by decide)

theorem definition_small (d : Definition) (hv : d.valid = true) (hc : d.contract.length = 20)
    (hb : ∀ p ∈ d.preds, ∀ b ∈ p.pred.byteArgs, b.length < 256 ^ 8)
    (hi : ∀ p ∈ d.preds, ∀ a ∈ p.pred.intArgs, a.toNat < 256 ^ 32) : d.toItem.small := by
  simp only [Definition.toItem, LogPred.toItem, ValuePred.toItem, Item.small, Item.smalls_iff, forall_mem_cons,
    forall_mem_append, forall_mem_map, not_mem_nil, false_imp_iff, implies_true, and_true]
  -- the contract; then per predicate `[[dynamic, offset], [op, ints…, bytes…]]`: the three `?_` are `dynamic`,
  -- `offset ≤ 2^32 - 1` and `op < 6`
  refine ⟨by rw [hc]; decide, fun p hp => ⟨⟨?_, natItem_small _ ?_⟩, ⟨natItem_small _ ?_,
    fun a ha => natItem_small _ (hi p hp a ha)⟩, hb p hp⟩⟩
  · cases p.ref.dynamic <;> rw [boolItem, Item.small] <;> decide
  · exact Nat.lt_of_le_of_lt (p.ref.offset_le_of_valid (p.valid_iff.1 ((d.valid_iff.1 hv).1 p hp)).1.1) (by decide)
  · cases p.pred.op <;> decide

end Shutter.TriggerDef
