/-
C12 — Validator updates always lead to the intended, live validator set.

Everything rests on the lookup law `get?_diff` (Proofs/Powermap.lean); `tmApply` there is the trusted reading of
Tendermint's set/remove.  What the application intends (ten units per keyper, placeholder key) is not a theorem here.
-/
import Shutter.Proofs.Powermap

namespace Shutter.Properties.C12
open Shutter Shutter.App Shutter.App.App

/-- no entry of the map has power zero (Tendermint never holds a zero-power validator) -/
def NoZero (m : AMap PubKey Int) : Prop := ∀ k, AMap.get? m k ≠ some 0

/-- **Every update is needed.**  Each entry of the update list changes the previous set: a positive power differs
    from the validator's previous power (absent counting as zero) and is its intended power; a removal (power 0)
    is of a validator that is present and not intended. -/
theorem C12_minimal (oldm newm : AMap PubKey Int) (oldL newL : List (PubKey × Int))
    (ho : Listing oldm oldL) (hn : Listing newm newL) (k : PubKey) (v : Int)
    (h : AMap.get? (diffPowermapsOn oldm newm oldL newL) k = some v) :
    (AMap.get? newm k = some v ∧ oldm.getD k 0 ≠ v) ∨
    (v = 0 ∧ AMap.get? newm k = none ∧ oldm.contains k = true) := by
  rw [get?_diff ho hn k] at h
  cases hk : AMap.get? newm k with
  | none =>
    simp only [hk] at h
    split at h
    next hc =>
      cases h
      exact Or.inr ⟨rfl, rfl, hc⟩
    next => cases h
  | some w =>
    simp only [hk] at h
    split at h
    next hne =>
      cases h
      exact Or.inl ⟨rfl, hne⟩
    next => cases h

/-- **Never removes an absent validator**, when no intended power is zero. -/
theorem C12_removals_present (oldm newm : AMap PubKey Int) (oldL newL : List (PubKey × Int))
    (ho : Listing oldm oldL) (hn : Listing newm newL) (hz : NoZero newm) (k : PubKey)
    (hk : (k, (0 : Int)) ∈ validatorUpdatesOn (diffPowermapsOn oldm newm oldL newL)) :
    oldm.contains k = true := by
  have h0 : AMap.get? (diffPowermapsOn oldm newm oldL newL) k = some 0 :=
    (AMap.mem_iff_get? (keys_diff_nodup ..) k 0).1 ((sortByKey_perm _).mem_iff.1 hk)
  rcases C12_minimal oldm newm oldL newL ho hn k 0 h0 with ⟨h, -⟩ | ⟨-, -, h⟩
  · exact absurd h (hz k)
  · exact h

/-- **Diff/apply.**  For every pair of power maps without zero-power entries, in whatever order Go
    happens to range over them, applying the emitted validator updates to the old set the way
    Tendermint does succeeds and yields exactly the new set. -/
theorem C12_diff_apply (oldm newm : AMap PubKey Int) (oldL newL : List (PubKey × Int))
    (ho : Listing oldm oldL) (hn : Listing newm newL) (hz : NoZero newm) :
    ∃ m', tmApply oldm (validatorUpdatesOn (diffPowermapsOn oldm newm oldL newL)) = some m' ∧
      ∀ k, AMap.get? m' k = AMap.get? newm k := by
  have hnd := keys_diff_nodup oldm newm oldL newL
  obtain ⟨m', hm', hget⟩ := tmApply_spec _ oldm (((sortByKey_perm _).map _).nodup_iff.2 hnd)
    (C12_removals_present oldm newm oldL newL ho hn hz)
  refine ⟨m', hm', fun k => ?_⟩
  rw [hget k, AMap.get?_eq_of_perm (sortByKey_perm _) hnd, get?_diff ho hn]
  cases hnk : AMap.get? newm k with
  | none => cases hok : AMap.get? oldm k <;> simp [AMap.contains, hok]
  | some v =>
    -- `v ≠ 0`, so where `getD`'s answer is `v` it is not the default: an unchanged entry is in the old map
    have hv0 : v ≠ 0 := fun h0 => hz k (h0 ▸ hnk)
    cases hok : AMap.get? oldm k with
    | none => simp [AMap.getD, hok, hv0, Ne.symm hv0]
    | some w => by_cases hwv : w = v <;> simp [AMap.getD, hok, hwv, hv0]

/-- **Sorted, duplicate-free.**  The update list is strictly increasing in the validator key. -/
theorem C12_updates_sorted (oldm newm : AMap PubKey Int) (oldL newL : List (PubKey × Int)) :
    SortedLT (validatorUpdatesOn (diffPowermapsOn oldm newm oldL newL)) :=
  (sortedLT_iff_pairwise _).2 (sortByKey_pairwise (keys_diff_nodup ..))

/-- **Order independence.**  The update list does not depend on the order in which the two maps
    are ranged over. -/
theorem C12_order_independent (oldm newm : AMap PubKey Int)
    (oldL oldL' newL newL' : List (PubKey × Int))
    (ho : Listing oldm oldL) (ho' : Listing oldm oldL')
    (hn : Listing newm newL) (hn' : Listing newm newL') :
    validatorUpdatesOn (diffPowermapsOn oldm newm oldL newL) =
      validatorUpdatesOn (diffPowermapsOn oldm newm oldL' newL') :=
  sortByKey_eq_of_get?_eq (keys_diff_nodup ..) (keys_diff_nodup ..)
    fun k => by rw [get?_diff ho hn, get?_diff ho' hn']

theorem numRequiredTransitionValidators_eq (c : BatchConfig) (hn : 0 < c.keypers.length) :
    numRequiredTransitionValidators c =
      max c.threshold (c.keypers.length - (c.keypers.length + 2) / 3 + 1) := by
  fun_cases numRequiredTransitionValidators c with
  | case1 n h0 => exact absurd h0 (Nat.ne_of_gt hn)
  | case2 n _ defenders h => exact (Nat.max_eq_left h).symm
  | case3 n _ defenders h => exact (Nat.max_eq_right (Nat.le_of_not_le h)).symm

/-- **Liveness quorum.**  `numRequiredTransitionValidators c` is more than two thirds of `c`'s keypers (each
    holds ten units of power).  `endBlockStep` compares it with `countCheckedIn` before setting
    `validatorsUpdated`; that step is read off the definition, not proved here. -/
theorem C12_live (c : BatchConfig) (checkedIn : Nat) (hn : 0 < c.keypers.length)
    (h : numRequiredTransitionValidators c ≤ checkedIn) :
    2 * c.keypers.length < 3 * checkedIn := by
  rw [numRequiredTransitionValidators_eq c hn] at h
  have := Nat.le_trans (Nat.le_max_right ..) h
  omega

/-- **Quorum ≥ threshold.**  For a non-empty keyper set the quorum of `C12_live` is also never below the decryption
    threshold. -/
theorem C12_quorum_ge_threshold (c : BatchConfig) (hn : 0 < c.keypers.length) :
    c.threshold ≤ numRequiredTransitionValidators c := by
  rw [numRequiredTransitionValidators_eq c hn]
  exact Nat.le_max_left ..

/-- **No change, no updates.**  When the intended validator set equals the previous one (the two power maps
    agree on every key), the block returns an empty update list — in whatever order the maps are ranged over. -/
theorem C12_no_change (oldm newm : AMap PubKey Int) (oldL newL : List (PubKey × Int))
    (ho : Listing oldm oldL) (hn : Listing newm newL)
    (heq : ∀ k, AMap.get? oldm k = AMap.get? newm k) :
    validatorUpdatesOn (diffPowermapsOn oldm newm oldL newL) = [] := by
  -- the diff has distinct keys and looks up nothing: it is the empty map
  have hd : (diffPowermapsOn oldm newm oldL newL).Perm [] :=
    AMap.perm_of_get?_eq (keys_diff_nodup ..) List.nodup_nil fun k => by
      rw [get?_diff ho hn k]
      cases hk : AMap.get? newm k <;> simp [AMap.contains, AMap.getD, heq k, hk]
  rw [hd.eq_nil]
  rfl

/-! non-vacuity: concrete maps meeting the hypotheses, with a removal, a change and an addition -/
example :
    let oldm : AMap PubKey Int := [(1, 10), (2, 20), (3, 10)]
    let newm : AMap PubKey Int := [(2, 10), (3, 10), (4, 30)]
    validatorUpdatesOn (diffPowermapsOn oldm newm oldm.reverse newm) = [(1, 0), (2, 10), (4, 30)]
    ∧ tmApply oldm [(1, 0), (2, 10), (4, 30)] = some [(2, 10), (3, 10), (4, 30)] := by
  decide

example : NoZero [(2, 10), (3, 10), (4, 30)] := by
  intro k
  simp only [AMap.get?]
  split
  · simp
  · split
    · simp
    · split <;> simp

end Shutter.Properties.C12
