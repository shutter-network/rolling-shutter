/-
C20 — Every generated eon key is handed to publication, even several per interval.

About `queryAndHandleNewEonPubKeys` (`Model/EonPk.lean`) once its delete-and-return query has answered.  The query
itself and what the publication mechanism does with a key are outside: `rows` is what the one returned, `accepts`
whether the other reported no error.
-/
import Shutter.Model.EonPk

namespace Shutter.Properties.C20
open Shutter.EonPk

/-- a row for a keyper set the keyper belongs to, with values in range of the unsigned conversions -/
def Row.Good (me : Addr) (r : Row) : Prop :=
  r.keypers.contains me = true ∧ 0 ≤ r.activation ∧ 0 ≤ r.configIndex ∧ 0 ≤ r.eon

def expected (r : Row) : Handed :=
  { publicKey := r.publicKey, activation := r.activation.toNat, configIndex := r.configIndex.toNat,
    eon := r.eon.toNat }

theorem handOf_good (me : Addr) (r : Row) (h : Row.Good me r) : handOf me r = some (expected r) := by
  obtain ⟨h1, h2, h3, h4⟩ := h
  unfold handOf
  rw [h1, if_neg (by decide), if_neg (Int.not_lt.2 h2), if_neg (Int.not_lt.2 h3), if_neg (Int.not_lt.2 h4)]
  rfl

section
variable {me : Addr} {mode : Mode} {accepts : Handed → Bool} {r : Row} {x : Handed} {rest : List Row}

theorem loop_none (hr : handOf me r = none) : loop me mode accepts (r :: rest) = ([], true) := by
  simp only [loop, hr]

theorem loop_neither (hr : handOf me r = some x) :
    loop me .neither accepts (r :: rest) = loop me .neither accepts rest := by
  simp only [loop, hr]

theorem loop_some (hm : mode ≠ .neither) (hr : handOf me r = some x) :
    loop me mode accepts (r :: rest) =
      if accepts x then (x :: (loop me mode accepts rest).1, (loop me mode accepts rest).2) else ([x], true) := by
  cases mode with
  | neither => exact absurd rfl hm
  | _ => simp only [loop, hr]

end

/-- **All of them, once each.**  When every pending row a tick finds is for a keyper set the keyper belongs to and the
    mechanism (broadcast or callback) accepts each key, every key is handed over exactly once, in the order returned,
    with its activation block, keyper-set index and eon number, and the tick ends without an error. -/
theorem C20_all_once (me : Addr) (mode : Mode) (hm : mode ≠ .neither) (accepts : Handed → Bool)
    (rows : List Row) (hgood : ∀ r ∈ rows, Row.Good me r) (hacc : ∀ r ∈ rows, accepts (expected r) = true) :
    tick me mode accepts rows = (rows.map expected, false) := by
  unfold tick
  induction rows with
  | nil => rfl
  | cons r rest ih =>
    rw [List.forall_mem_cons] at hgood hacc
    rw [loop_some hm (handOf_good me r hgood.1), if_pos hacc.1, ih hgood.2 hacc.2]
    rfl

/-- under the hypotheses of `C20_all_once` the order in which the query returns the rows does not matter: the same
    keys are handed over (otherwise it does: the tick stops at the first failure) -/
theorem C20_any_order (me : Addr) (mode : Mode) (hm : mode ≠ .neither) (accepts : Handed → Bool)
    (rows rows' : List Row) (hp : rows'.Perm rows) (hgood : ∀ r ∈ rows, Row.Good me r)
    (hacc : ∀ r ∈ rows, accepts (expected r) = true) :
    (tick me mode accepts rows').1.Perm (tick me mode accepts rows).1 ∧ (tick me mode accepts rows').2 = false := by
  rw [C20_all_once me mode hm accepts rows hgood hacc,
    C20_all_once me mode hm accepts rows' (fun r hr => hgood r (hp.mem_iff.1 hr)) (fun r hr => hacc r (hp.mem_iff.1 hr))]
  exact ⟨hp.map _, rfl⟩

/-! non-vacuity: three keys completed within one polling interval (a row is ⟨eon, publicKey, activation, keypers,
    configIndex⟩, a handed value ⟨publicKey, activation, configIndex, eon⟩) -/
example :
    tick 7 .broadcast (fun _ => true)
      [⟨3, 100, 50, [7, 8], 1⟩, ⟨4, 101, 60, [7, 9], 2⟩, ⟨5, 102, 60, [6, 7], 2⟩] =
      ([⟨100, 50, 1, 3⟩, ⟨101, 60, 2, 4⟩, ⟨102, 60, 2, 5⟩], false) := by decide

/-- the polling loop (`eonPubKeyHandler.loop` with `stopOnErrors = false`, what `newEonPubKeyHandler` sets): one
    tick per interval over whatever is pending then; a tick that ends in an error is logged and the loop goes on -/
def poll (me : Addr) (mode : Mode) (accepts : Handed → Bool) (intervals : List (List Row)) : List Handed :=
  intervals.flatMap (fun rows => (tick me mode accepts rows).1)

/-- **Every interval.**  Whatever happened in the intervals before (keys refused, ticks ended by an error) and whatever
    happens afterwards, the keys of an interval whose rows are all `Good` and accepted are handed over in that
    interval, each once, in order. -/
theorem C20_every_interval (me : Addr) (mode : Mode) (hm : mode ≠ .neither) (accepts : Handed → Bool)
    (before after : List (List Row)) (rows : List Row)
    (hgood : ∀ r ∈ rows, Row.Good me r) (hacc : ∀ r ∈ rows, accepts (expected r) = true) :
    poll me mode accepts (before ++ rows :: after) =
      poll me mode accepts before ++ rows.map expected ++ poll me mode accepts after := by
  unfold poll
  rw [List.flatMap_append, List.flatMap_cons, C20_all_once me mode hm accepts rows hgood hacc, List.append_assoc]

theorem loop_neither_nil (me : Addr) (accepts : Handed → Bool) (rows : List Row) :
    (loop me .neither accepts rows).1 = [] := by
  induction rows with
  | nil => rfl
  | cons r rest ih =>
    cases hr : handOf me r with
    | none => rw [loop_none hr]
    | some x => rw [loop_neither hr, ih]

/-- **Never twice, never out of order — whatever the rows are and whatever the mechanism answers.**  What one tick
    hands over is a prefix of the rows' values in the order returned: no row is handed twice, none before an earlier
    one, none is invented. -/
theorem C20_prefix (me : Addr) (mode : Mode) (accepts : Handed → Bool) (rows : List Row) :
    (tick me mode accepts rows).1 <+: rows.filterMap (handOf me) := by
  unfold tick
  by_cases hm : mode = .neither
  · rw [hm, loop_neither_nil]
    exact List.nil_prefix
  induction rows with
  | nil => exact List.nil_prefix
  | cons r rest ih =>
    cases hr : handOf me r with
    | none => rw [loop_none hr]; exact List.nil_prefix
    | some x =>
      rw [loop_some hm hr, List.filterMap_cons_some hr]
      split
      · exact (List.prefix_cons_inj x).2 ih
      · exact (List.prefix_cons_inj x).2 List.nil_prefix

/-- nothing is handed over that was not pending -/
theorem C20_only_pending (me : Addr) (mode : Mode) (accepts : Handed → Bool) (rows : List Row) :
    ∀ h ∈ (tick me mode accepts rows).1, ∃ r ∈ rows, handOf me r = some h :=
  fun _ hh => List.mem_filterMap.1 ((C20_prefix me mode accepts rows).subset hh)

/-- **When a tick ends cleanly.**  A tick ends without an error exactly when every row converts (keyper set
    contains the keyper, numbers in range) and — when a mechanism is configured — every key was accepted. -/
theorem C20_clean_iff (me : Addr) (mode : Mode) (accepts : Handed → Bool) (rows : List Row) :
    (tick me mode accepts rows).2 = false ↔
      ∀ r ∈ rows, ∃ h, handOf me r = some h ∧ (mode = .neither ∨ accepts h = true) := by
  unfold tick
  induction rows with
  | nil => exact iff_of_true rfl (List.forall_mem_nil _)
  | cons r rest ih =>
    rw [List.forall_mem_cons, ← ih]
    cases hr : handOf me r with
    | none => simp [loop_none hr]
    | some x =>
      simp only [Option.some.injEq, exists_eq_left']
      by_cases hm : mode = .neither
      · simp [hm, loop_neither hr]
      · simp [loop_some hm hr, hm, apply_ite Prod.snd]

/-! non-vacuity: a refusal in the middle — the refused key was handed, the one behind it was not -/
example :
    tick 7 .callback (fun h => h.eon != 4)
      [⟨3, 100, 50, [7, 8], 1⟩, ⟨4, 101, 60, [7, 9], 2⟩, ⟨5, 102, 60, [6, 7], 2⟩] =
      ([⟨100, 50, 1, 3⟩, ⟨101, 60, 2, 4⟩], true) := by decide

end Shutter.Properties.C20
