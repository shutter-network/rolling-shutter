/-
C05 — No byte string on any gossip topic can crash a node.

What is proved: every place where the gossip-processing code indexes, slices or type-asserts on
message-derived data is listed from the source on every run (`C05_sites_pinned`), and each of the 57 carries one of
eleven guard labels (`C05_all_classified`).  Eight guards (25 sites) are partial operations in `Model/Panic.lean`;
for each of them the operation never yields `panic`, for every input (`C05_total_*`).  Three guards (`map-lookup`,
`clone-keeps-type`, `type-by-registration`: 32 sites) name Go operations that cannot fail; the reason is given at
`guards` and is not a theorem.  Which label a site carries is the author's reading of the code around it.
"Never hangs" and "bounded allocation" are not expressible in this model; they are searched for by the
differential run only (partial claim).
-/
import Shutter.Model.Panic
import Shutter.Generated.SiteFacts

namespace Shutter.Properties.C05
open Shutter.Panic

/-- the sites, each with its guard -/
def classified : List ((String × String × String × String) × String) := [
  (("p2p/messaging.go", "ValidatorRegistry.GetCombinedValidator", "index", "(*r)[topic]"), "map-lookup"),
  (("p2p/messaging.go", "P2PMessaging.AddHandlerFunc", "index", "m.handlerRegistry[messageType]"), "map-lookup"),
  (("p2p/messaging.go", "P2PMessaging.AddHandlerFunc", "index", "m.handlerRegistry[messageType]"), "map-lookup"),
  (("p2p/messaging.go", "P2PMessaging.addValidatorImpl", "index", "m.validatorRegistry[topic]"), "map-lookup"),
  (("p2p/messaging.go", "P2PMessaging.addValidatorImpl", "index", "m.validatorRegistry[topic]"), "map-lookup"),
  (("p2p/messaging.go", "P2PMessaging.addValidatorImpl", "index", "m.validatorRegistry[topic]"), "map-lookup"),
  (("p2p/messaging.go", "P2PMessaging.AddGossipTopic", "index", "m.gossipTopicNames[topic]"), "map-lookup"),
  (("p2p/messaging.go", "P2PMessaging.Handle", "index", "m.handlerRegistry[messageName]"), "map-lookup"),
  (("p2pmsg/messages.go", "DecryptionKeys.LogInfo", "index", "keys.Keys[0]"), "first-under-nonempty"),
  (("keyper/epochkghandler/keyshare.go", "DecryptionKeyShareHandler.ValidateMessage", "assert", "msg.(*p2pmsg.DecryptionKeyShares)"), "type-by-registration"),
  (("keyper/epochkghandler/keyshare.go", "checkKeyShares", "index", "pureDKGResult.PublicKeyShares[keyShare.KeyperIndex]"), "index-below-checked-length"),
  (("keyper/epochkghandler/keyshare.go", "checkKeyShares", "index", "shares[i-1]"), "i-1-under-i>0"),
  (("keyper/epochkghandler/keyshare.go", "DecryptionKeyShareHandler.HandleMessage", "assert", "m.(*p2pmsg.DecryptionKeyShares)"), "type-by-registration"),
  (("keyper/epochkghandler/keyshare.go", "DecryptionKeyShareHandler.HandleMessage", "index", "epochKG.SecretKeys[identityPreimage.Hex()]"), "map-lookup"),
  (("keyper/epochkghandler/key.go", "DecryptionKeyHandler.ValidateMessage", "assert", "msg.(*p2pmsg.DecryptionKeys)"), "type-by-registration"),
  (("keyper/epochkghandler/key.go", "checkKeysErrors", "index", "decryptionKeys.Keys[i-1]"), "i-1-under-i>0"),
  (("keyper/epochkghandler/key.go", "DecryptionKeyHandler.HandleMessage", "assert", "msg.(*p2pmsg.DecryptionKeys)"), "type-by-registration"),
  (("keyper/epochkghandler/eonpublickey.go", "EonPublicKeyHandler.ValidateMessage", "assert", "msg.(*p2pmsg.EonPublicKey)"), "type-by-registration"),
  (("keyperimpl/gnosis/handlers.go", "DecryptionKeySharesHandler.ValidateMessage", "assert", "msg.(*p2pmsg.DecryptionKeyShares)"), "type-by-registration"),
  (("keyperimpl/gnosis/handlers.go", "DecryptionKeySharesHandler.ValidateMessage", "index", "keyperSet.Keypers[keyShares.KeyperIndex]"), "index-below-checked-length"),
  (("keyperimpl/gnosis/handlers.go", "DecryptionKeySharesHandler.HandleMessage", "assert", "msg.(*p2pmsg.DecryptionKeyShares)"), "type-by-registration"),
  (("keyperimpl/gnosis/handlers.go", "DecryptionKeySharesHandler.HandleMessage", "assert", "keyShares.Extra.(*p2pmsg.DecryptionKeyShares_Gnosis)"), "extra-checked-by-validator"),
  (("keyperimpl/gnosis/handlers.go", "validateSignerIndices", "index", "extra.SignerIndices[i-1]"), "i-1-under-i>0"),
  (("keyperimpl/gnosis/handlers.go", "ValidateDecryptionKeysSignatures", "index", "extra.Signatures[signatureIndex]"), "parallel-lists-equal-length"),
  (("keyperimpl/gnosis/handlers.go", "ValidateDecryptionKeysSignatures", "index", "signers[signatureIndex]"), "parallel-lists-equal-length"),
  (("keyperimpl/gnosis/handlers.go", "DecryptionKeysHandler.ValidateMessage", "assert", "msg.(*p2pmsg.DecryptionKeys)"), "type-by-registration"),
  (("keyperimpl/gnosis/handlers.go", "DecryptionKeysHandler.ValidateMessage", "assert", "keys.Extra.(*p2pmsg.DecryptionKeys_Gnosis)"), "extra-checked-by-validator"),
  (("keyperimpl/gnosis/handlers.go", "DecryptionKeysHandler.HandleMessage", "assert", "msg.(*p2pmsg.DecryptionKeys)"), "type-by-registration"),
  (("keyperimpl/gnosis/handlers.go", "DecryptionKeysHandler.HandleMessage", "assert", "keys.Extra.(*p2pmsg.DecryptionKeys_Gnosis)"), "extra-checked-by-validator"),
  (("keyperimpl/gnosis/handlers.go", "DecryptionKeysHandler.HandleMessage", "index", "extra.Signatures[i]"), "parallel-lists-checked-by-validator"),
  (("keyperimpl/gnosis/messagingmiddleware.go", "MessagingMiddleware.interceptDecryptionKeyShares", "assert", "proto.Clone(originalMsg).(*p2pmsg.DecryptionKeyShares)"), "clone-keeps-type"),
  (("keyperimpl/gnosis/messagingmiddleware.go", "MessagingMiddleware.interceptDecryptionKeys", "assert", "proto.Clone(originalMsg).(*p2pmsg.DecryptionKeys)"), "clone-keeps-type"),
  (("keyperimpl/gnosis/messagingmiddleware.go", "MessagingMiddleware.advanceTxPointer", "assert", "msg.Extra.(*p2pmsg.DecryptionKeys_Gnosis)"), "extra-checked-by-validator"),
  (("keyperimpl/shutterservice/handlers.go", "DecryptionKeySharesHandler.ValidateMessage", "assert", "msg.(*p2pmsg.DecryptionKeyShares)"), "type-by-registration"),
  (("keyperimpl/shutterservice/handlers.go", "DecryptionKeySharesHandler.ValidateMessage", "index", "keyperSet.Keypers[keyShares.KeyperIndex]"), "index-below-checked-length"),
  (("keyperimpl/shutterservice/handlers.go", "DecryptionKeySharesHandler.HandleMessage", "assert", "msg.(*p2pmsg.DecryptionKeyShares)"), "type-by-registration"),
  (("keyperimpl/shutterservice/handlers.go", "DecryptionKeySharesHandler.HandleMessage", "assert", "keyShares.Extra.(*p2pmsg.DecryptionKeyShares_Service)"), "extra-checked-by-validator"),
  (("keyperimpl/shutterservice/handlers.go", "validateSignerIndices", "index", "extra.SignerIndices[i-1]"), "i-1-under-i>0"),
  (("keyperimpl/shutterservice/handlers.go", "ValidateDecryptionKeysSignatures", "index", "extra.Signature[signatureIndex]"), "parallel-lists-equal-length"),
  (("keyperimpl/shutterservice/handlers.go", "ValidateDecryptionKeysSignatures", "index", "signers[signatureIndex]"), "parallel-lists-equal-length"),
  (("keyperimpl/shutterservice/handlers.go", "DecryptionKeysHandler.ValidateMessage", "assert", "msg.(*p2pmsg.DecryptionKeys)"), "type-by-registration"),
  (("keyperimpl/shutterservice/handlers.go", "DecryptionKeysHandler.HandleMessage", "assert", "msg.(*p2pmsg.DecryptionKeys)"), "type-by-registration"),
  (("keyperimpl/shutterservice/handlers.go", "DecryptionKeysHandler.HandleMessage", "assert", "keys.Extra.(*p2pmsg.DecryptionKeys_Service)"), "extra-checked-by-validator"),
  (("keyperimpl/shutterservice/handlers.go", "DecryptionKeysHandler.HandleMessage", "index", "extra.Signature[i]"), "parallel-lists-checked-by-validator"),
  (("keyperimpl/shutterservice/messagingmiddleware.go", "MessagingMiddleware.interceptDecryptionKeyShares", "assert", "proto.Clone(originalMsg).(*p2pmsg.DecryptionKeyShares)"), "clone-keeps-type"),
  (("keyperimpl/shutterservice/messagingmiddleware.go", "MessagingMiddleware.interceptDecryptionKeys", "assert", "proto.Clone(originalMsg).(*p2pmsg.DecryptionKeys)"), "clone-keeps-type"),
  (("keyperimpl/primev/handler.go", "getBidderNodeAddress", "index", "signatureBytes[64]"), "fixed-length-checked"),
  (("keyperimpl/primev/handler.go", "getBidderNodeAddress", "index", "signatureBytes[64]"), "fixed-length-checked"),
  (("keyperimpl/primev/handler.go", "getBidderNodeAddress", "index", "signatureBytes[64]"), "fixed-length-checked"),
  (("keyperimpl/snapshot/trigger.go", "DecryptionTriggerHandler.ValidateMessage", "assert", "msg.(*p2pmsg.DecryptionTrigger)"), "type-by-registration"),
  (("gnosisaccessnode/decryptionkeyshandler.go", "DecryptionKeysHandler.ValidateMessage", "assert", "msg.(*p2pmsg.DecryptionKeys)"), "type-by-registration"),
  (("gnosisaccessnode/decryptionkeyshandler.go", "DecryptionKeysHandler.validateCommonFields", "index", "keys.Keys[i-1]"), "i-1-under-i>0"),
  (("gnosisaccessnode/decryptionkeyshandler.go", "DecryptionKeysHandler.validateGnosisFields", "assert", "keys.Extra.(*p2pmsg.DecryptionKeys_Gnosis)"), "extra-checked-by-caller"),
  (("snapshot/handler.go", "DecryptionKeyHandler.ValidateMessage", "assert", "msg.(*p2pmsg.DecryptionKeys)"), "type-by-registration"),
  (("snapshot/handler.go", "EonPublicKeyHandler.ValidateMessage", "assert", "msg.(*p2pmsg.EonPublicKey)"), "type-by-registration"),
  (("snapshot/handler.go", "DecryptionKeyHandler.HandleMessage", "assert", "m.(*p2pmsg.DecryptionKeys)"), "type-by-registration"),
  (("snapshot/handler.go", "EonPublicKeyHandler.HandleMessage", "assert", "m.(*p2pmsg.EonPublicKey)"), "type-by-registration")]

/-- The guards a site may carry.  `map-lookup`, `clone-keeps-type` and `type-by-registration` have no modelled
    operation and no theorem, because the operation cannot fail in Go: a map lookup yields the zero value,
    `proto.Clone` returns its argument's type, and a handler is only called with messages of the type it was
    registered for (`addValidatorImpl` compares `reflect.TypeOf` with the prototype, `Handle` looks the handler up
    by message name).  This is argued here, not proved.  Each of the other eight has a `C05_total_*` theorem below,
    which names it in its docstring. -/
def guards : List String :=
  ["map-lookup", "clone-keeps-type", "type-by-registration", "extra-checked-by-validator", "extra-checked-by-caller",
   "i-1-under-i>0", "index-below-checked-length", "parallel-lists-equal-length", "parallel-lists-checked-by-validator",
   "fixed-length-checked", "first-under-nonempty"]

/-- **The list of sites is the source's.**  Regenerated on every run; a new, removed or changed index, slice
    or unchecked type assertion in the gossip-processing files breaks this. -/
theorem C05_sites_pinned : Shutter.Generated.SiteFacts.sites = classified.map (·.1) := rfl

/-- Every site's label is one of `guards`; no more than that. -/
theorem C05_all_classified : ∀ c ∈ classified, c.2 ∈ guards := by decide +kernel

theorem idx_of_lt {α : Type} {l : List α} {i : Nat} (h : i < l.length) : idx l i = some l[i] :=
  List.getElem?_eq_getElem h

/-- guard `index-below-checked-length` -/
theorem C05_total_guardedIndex {α : Type} (l : List α) (i : Nat) (use : α → Outcome) (huse : ∀ x, use x ≠ .panic) :
    guardedIndex l i use ≠ .panic := by
  unfold guardedIndex
  split
  · simp
  · rw [idx_of_lt (by omega)]
    exact huse _

/-- guard `i-1-under-i>0` (the ordering loops) -/
theorem C05_total_orderLoop {α : Type} (less : α → α → Bool) (l : List α) (fuel i : Nat) :
    orderLoop less l fuel i ≠ .panic := by
  fun_induction orderLoop less l fuel i with
  -- out of fuel, past the end, rejected
  | case1 | case2 | case5 => simp
  -- the two panic branches: an index read as `none` although it is below the length
  | case3 fuel i hi hn => exact absurd (List.getElem?_eq_none_iff.1 hn) hi
  | case4 fuel i hi cur hcur hpos hn => exact absurd (List.getElem?_eq_none_iff.1 hn) (by omega)
  | case6 | case7 => assumption

theorem parallelLoop_total {α β : Type} {check : α → β → Bool} {sigs : List α} {signers : List β}
    (hlen : sigs.length = signers.length) {fuel i : Nat} : parallelLoop check sigs signers fuel i ≠ .panic := by
  fun_induction parallelLoop check sigs signers fuel i with
  | case1 | case2 | case4 => simp
  | case3 => assumption
  -- the panic branch: one of the two reads is `none`, although `i` is below both lengths
  | case5 fuel i hi hn => exact (hn _ _ (idx_of_lt (by omega)) (idx_of_lt (by omega))).elim

/-- guard `parallel-lists-equal-length` (validators) -/
theorem C05_total_validateParallel {α β : Type} (check : α → β → Bool) (sigs : List α) (signers : List β) :
    validateParallel check sigs signers ≠ .panic := by
  fun_cases validateParallel check sigs signers with
  | case1 => simp
  | case2 hlen => exact parallelLoop_total (by omega)

theorem validateParallel_accept {α β : Type} {check : α → β → Bool} {sigs : List α} {signers : List β}
    (h : validateParallel check sigs signers = .accept) : sigs.length = signers.length := by
  unfold validateParallel at h
  split at h
  · cases h
  · omega

theorem handleParallel_total {α β : Type} {signerIndices : List β} {signatures : List α}
    (hlen : signatures.length = signerIndices.length) {fuel i : Nat} :
    handleParallel signerIndices signatures fuel i ≠ .panic := by
  fun_induction handleParallel signerIndices signatures fuel i with
  | case1 | case2 => simp
  | case3 fuel i hi hn => exact absurd (List.getElem?_eq_none_iff.1 hn) (by omega)
  | case4 => assumption

theorem receive_total {μ : Type} {validate handle : μ → Outcome} {m : μ} (hv : validate m ≠ .panic)
    (hh : validate m = .accept → handle m ≠ .panic) : receive validate handle m ≠ .panic := by
  fun_cases receive validate handle m with
  | case1 ha => exact hh ha
  | case2 _ => exact hv

/-- guard `parallel-lists-checked-by-validator`: on the receive path the handler's loop over the signer indices
    runs only on a message whose validator checked that both lists have the same length -/
theorem C05_total_receiveParallel {α β : Type} (check : α → β → Bool) (m : List α × List β) :
    receive (fun m => validateParallel check m.1 m.2) (fun m => handleParallel m.2 m.1 m.2.length 0) m ≠ .panic :=
  receive_total (C05_total_validateParallel check m.1 m.2)
    fun ha => handleParallel_total (validateParallel_accept ha)

/-- guard `fixed-length-checked` -/
theorem C05_total_fixedIndex (sig : List Nat) (use : Nat → Outcome) (huse : ∀ x, use x ≠ .panic) :
    fixedIndex sig use ≠ .panic := by
  unfold fixedIndex
  split
  · simp
  · rw [idx_of_lt (by omega)]
    exact huse _

/-- guard `first-under-nonempty` -/
theorem C05_total_firstOrNone {α : Type} (l : List α) : firstOrNone l ≠ .panic := by
  unfold firstOrNone
  split
  · simp
  · rw [idx_of_lt (by omega)]
    simp

/-- guards `extra-checked-by-validator` and `extra-checked-by-caller`: the `Extra` assertion is reached only when
    the validator saw the Gnosis variant with a non-nil payload (the Shutter-service handlers are the same with
    the variants exchanged; for `extra-checked-by-caller` the validator is the comma-ok check earlier in the same
    `ValidateMessage`) -/
theorem C05_total_receiveExtra {γ σ : Type} (rest use : γ → Outcome) (huse : ∀ g, use g ≠ .panic)
    (hrest : ∀ g, rest g ≠ .panic) (e : Extra γ σ) :
    receive (fun e => validateGnosisExtra e rest) (fun e => handleGnosisExtra e use) e ≠ .panic := by
  apply receive_total
  · fun_cases validateGnosisExtra e rest with
    | case1 g => exact hrest g
    | case2 => simp
  · fun_cases validateGnosisExtra e rest with
    | case1 g => exact fun _ => huse g
    | case2 => simp

/-! non-vacuity: unguarded, the operations fail (index past the end; the handler's assertion on the other variant;
    the handler's loop on lists of unequal length), and the validator rejects that last input -/

example : idx [1, 2, 3] 3 = none := by decide
example : handleGnosisExtra (Extra.service (σ := Nat) (γ := Nat) none) (fun _ => .accept) = .panic := rfl
example : handleParallel [0, 1] [7] 2 0 = .panic := by decide
example : validateParallel (fun (_ _ : Nat) => true) [7] [0, 1] = .reject := by decide

end Shutter.Properties.C05
