/-
C01 — A derived decryption key is the unique correct key, from any t valid shares.

Setting: an arbitrary field `F` (the BLS scalar field), an arbitrary `F`-module `G` (the group the
shares live in), the eon secret polynomial `f` of degree `< t`, an identity point `H`, keyper `i`
evaluating at `node i = i + 1`, and a share check `verify` that accepts exactly `f(node i) • H` from
keyper `i` (what the pairing equation `e(g₂, s) = e(pkᵢ, H)` says for a non-degenerate pairing; the
pairing itself is outside the model).  The eon public key corresponds to `f(0)`, so the epoch secret
key that decrypts what was encrypted for `H` is `f(0) • H`.
-/
import Shutter.Proofs.EpochKG

open Polynomial

namespace Shutter.Properties.C01
open Shutter.EpochKG

variable {F G : Type} [Field F] [AddCommGroup G] [Module F G]

/-- the setting of the head comment as hypotheses (`distinct` holds when `n` is below the characteristic of `F`) -/
structure Setup (f : F[X]) (H : G) (n t : ℕ) (verify : ℕ → G → Bool) : Prop where
  tpos : 1 ≤ t
  deg : f.degree < t
  distinct : Set.InjOn (node : ℕ → F) ↑(Finset.range n)
  sound : ∀ i s, i < n → (verify i s = true ↔ s = f.eval (node i) • H)

def validSenders (verify : ℕ → G → Bool) (σ : List (ℕ × G)) : Finset ℕ :=
  ((σ.filter (fun e => verify e.1 e.2)).map (·.1)).toFinset

/-- the invariant of the per-identity state after the valid senders `seen` -/
def Inv (f : F[X]) (H : G) (n t : ℕ) (st : St G) (seen : Finset ℕ) : Prop :=
  (st.key = none ∧ (st.shares.map (·.1)).Nodup ∧
      (∀ e ∈ st.shares, e.1 < n ∧ e.2 = f.eval (node e.1) • H) ∧
      st.shares.length < t ∧ (st.shares.map (·.1)).toFinset = seen) ∨
  (st.key = some (f.eval 0 • H) ∧ t ≤ seen.card)

/-- a valid sender moves from the list to the set seen.  `G` is bound afresh, so that the section's instances on it
    stay out (`omit … in` does the same and is slow to check). -/
theorem validSenders_cons {G : Type} (verify : ℕ → G → Bool) (e : ℕ × G) (σ : List (ℕ × G)) (seen : Finset ℕ) :
    seen ∪ validSenders verify (e :: σ) =
      (if verify e.1 e.2 then insert e.1 seen else seen) ∪ validSenders verify σ := by
  unfold validSenders
  rw [List.filter_cons]
  split
  · rw [List.map_cons, List.toFinset_cons, Finset.union_insert, Finset.insert_union]
  · rfl

theorem inv_step {f : F[X]} {H : G} {n t : ℕ} {verify : ℕ → G → Bool} (S : Setup f H n t verify)
    {st : St G} {seen : Finset ℕ} (inv : Inv f H n t st seen) {sender : ℕ} (share : G) (hs : sender < n) :
    Inv f H n t (handle (lawful : Ops F G) verify n t st sender share).2
      (if verify sender share then insert sender seen else seen) := by
  rcases inv with ⟨hk, hnd, hval, hlen, hseen⟩ | ⟨hk, hcard⟩
  · by_cases hv : verify sender share = true
    · rw [if_pos hv]
      by_cases hdup : sender ∈ st.shares.map (·.1)
      · -- a repeat of an earlier sender: nothing changes
        rw [handle_ignored (.inr (.inr (.inr hdup))),
          Finset.insert_eq_of_mem (hseen ▸ List.mem_toFinset.2 hdup)]
        exact .inl ⟨hk, hnd, hval, hlen, hseen⟩
      · rw [handle_taken hk hs hv hdup]
        have hnd' : ((st.shares ++ [(sender, share)]).map (·.1)).Nodup := by
          rw [List.map_append, List.map_singleton, ← List.concat_eq_append]
          exact hnd.concat hdup
        -- `hval' : ∀ e ∈ …, e.1 < n ∧ e.2 = f.eval (node e.1) • H`, as `hval` (`_`: elaborating `•` afresh is slow)
        have hval' : ∀ e ∈ st.shares ++ [(sender, share)], _ :=
          List.forall_mem_append.2 ⟨hval, List.forall_mem_singleton.2 ⟨hs, (S.sound sender share hs).1 hv⟩⟩
        have hfin : ((st.shares ++ [(sender, share)]).map (·.1)).toFinset = insert sender seen := by
          rw [List.map_append, List.toFinset_append, hseen, Finset.union_comm, Finset.insert_eq]
          rfl  -- `[a].toFinset` is `{a}` by definition
        split
        · next hfull =>
          -- the `t`-th share: the senders are distinct points of the key set, so interpolation applies
          refine .inr ⟨congrArg some (combine_eq f H _ hnd' ?_ (hfull ▸ S.deg) fun e he => (hval' e he).2), ?_⟩
          · refine S.distinct.mono fun a ha => ?_
            obtain ⟨e, he, rfl⟩ := List.mem_map.1 (List.mem_toFinset.1 ha)
            exact Finset.mem_coe.2 (Finset.mem_range.2 (hval' e he).1)
          · rw [← hfin, List.toFinset_card_of_nodup hnd', List.length_map, hfull]
        · next hfull =>
          refine .inl ⟨rfl, hnd', hval', ?_, hfin⟩
          rw [List.length_append, List.length_singleton] at hfull ⊢
          exact Nat.lt_of_le_of_ne hlen hfull
    · rw [if_neg hv, handle_ignored (.inr (.inr (.inl (Bool.eq_false_iff.2 hv))))]
      exact .inl ⟨hk, hnd, hval, hlen, hseen⟩
  · -- the key is already there: nothing is touched
    rw [handle_ignored (.inl (by rw [hk]; rfl))]
    refine .inr ⟨hk, ?_⟩
    split
    · exact le_trans hcard (Finset.card_le_card (Finset.subset_insert _ _))
    · exact hcard

theorem inv_run {f : F[X]} {H : G} {n t : ℕ} {verify : ℕ → G → Bool} (S : Setup f H n t verify)
    (σ : List (ℕ × G)) (hσ : ∀ e ∈ σ, e.1 < n) {st : St G} {seen : Finset ℕ} (inv : Inv f H n t st seen) :
    Inv f H n t (run (lawful : Ops F G) verify n t st σ) (seen ∪ validSenders verify σ) := by
  fun_induction run (lawful : Ops F G) verify n t st σ generalizing seen with
  | case1 st => exact (Finset.union_empty seen).symm ▸ inv
  | case2 st s sh rest ih =>
    rw [validSenders_cons]
    exact ih (fun e he => hσ e (List.mem_cons_of_mem _ he)) (inv_step S inv sh (hσ _ List.mem_cons_self))

/-- the key after `σ` from the empty state: `f(0) • H` once `t` distinct senders had a valid share, none before -/
theorem run_key {f : F[X]} {H : G} {n t : ℕ} {verify : ℕ → G → Bool} (S : Setup f H n t verify)
    (σ : List (ℕ × G)) (hσ : ∀ e ∈ σ, e.1 < n) :
    (run (lawful : Ops F G) verify n t St.empty σ).key =
      if t ≤ (validSenders verify σ).card then some (f.eval 0 • H) else none := by
  have inv := inv_run S σ hσ (st := St.empty) (seen := ∅) (.inl ⟨rfl, List.nodup_nil, nofun, S.tpos, rfl⟩)
  rw [Finset.empty_union] at inv
  rcases inv with ⟨hk, hnd, _, hlen, hseen⟩ | ⟨hk, hcard⟩
  · rw [hk, if_neg]
    rw [← hseen, List.toFinset_card_of_nodup hnd, List.length_map]
    omega
  · rw [hk, if_pos hcard]

/-- **Exactly at t.**  After any finite sequence of incoming shares from senders below `n` (valid, invalid,
    repeated, in any order) a key is held for the identity exactly when valid shares of at least `t` distinct
    keypers occurred in it; never from fewer. -/
theorem C01_exact {f : F[X]} {H : G} {n t : ℕ} {verify : ℕ → G → Bool} (S : Setup f H n t verify)
    (σ : List (ℕ × G)) (hσ : ∀ e ∈ σ, e.1 < n) :
    (run (lawful : Ops F G) verify n t St.empty σ).key.isSome ↔ t ≤ (validSenders verify σ).card := by
  rw [run_key S σ hσ]
  split <;> simp [*]

/-- **The correct key.**  Any key that is ever derived from shares of senders below `n` is `f(0) • H`: the one
    epoch secret key matching the eon public key for that identity, whichever `t` shares arrived first. -/
theorem C01_correct {f : F[X]} {H : G} {n t : ℕ} {verify : ℕ → G → Bool} (S : Setup f H n t verify)
    (σ : List (ℕ × G)) (hσ : ∀ e ∈ σ, e.1 < n) (k : G)
    (hk : (run (lawful : Ops F G) verify n t St.empty σ).key = some k) : k = f.eval 0 • H := by
  rw [run_key S σ hσ] at hk
  split at hk
  · exact (Option.some.inj hk).symm
  · cases hk

/-- **Order and junk do not matter.**  Two sequences of shares from senders below `n` containing valid shares of
    the same keypers — in any order, with any invalid or repeated shares interleaved — end with the same
    key (or both with none). -/
theorem C01_order_independent {f : F[X]} {H : G} {n t : ℕ} {verify : ℕ → G → Bool} (S : Setup f H n t verify)
    (σ σ' : List (ℕ × G)) (hσ : ∀ e ∈ σ, e.1 < n) (hσ' : ∀ e ∈ σ', e.1 < n)
    (hsame : validSenders verify σ = validSenders verify σ') :
    (run (lawful : Ops F G) verify n t St.empty σ).key = (run (lawful : Ops F G) verify n t St.empty σ').key := by
  rw [run_key S σ hσ, run_key S σ' hσ', hsame]

/-- **No panic for senders inside the keyper set**, in any state (`S` and `inv` are not used).  The only index
    expression of `EpochKG` on message data is `PublicKeyShares[sender]`, and `checkKeyShares` rejects
    `KeyperIndex ≥ n` (clause `m.keyperIndex < d.n` of `C04_shares_iff`). -/
theorem C01_no_panic {f : F[X]} {H : G} {n t : ℕ} {verify : ℕ → G → Bool} (S : Setup f H n t verify)
    (st : St G) (seen : Finset ℕ) (inv : Inv f H n t st seen) (sender : ℕ) (share : G) (hs : sender < n) :
    (handle (lawful : Ops F G) verify n t st sender share).1 ≠ .panic :=
  handle_ne_panic st hs share

/-! non-vacuity: `Setup` is satisfiable -/
noncomputable def exF : Polynomial ℚ := Polynomial.C 5 + Polynomial.X

example : Setup exF (1 : ℚ) 3 2 (fun i s => decide (s = exF.eval (node i) • (1 : ℚ))) := by
  refine ⟨by decide, ?_, fun a _ b _ h => Nat.succ_injective (Nat.cast_injective h), fun i s _ => by simp⟩
  rw [exF, add_comm, Polynomial.degree_X_add_C]
  norm_num

end Shutter.Properties.C01
