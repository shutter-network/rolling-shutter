/-
C13 — Shuttermint restarted from its saved state continues identically.

Proved: (1) replay determinism of the model: a history run in two pieces, the second from the state the first ended
in, gives the outputs and state of the uninterrupted run (`C13_replay`); Commit, the only call that may trigger a save,
changes the mempool tables only (`C13_commit_pure`); (2) crash-atomicity of the save protocol on a file-system model,
for one save (`C13_atomic_save`) and for any history of saves cut short anywhere, each finding anything at all at the
temp path (`C13_saves_after_crashes`); the protocol's step order is read off the source (`C13_persist_order_pinned`).
Checked, not proved: that gob decoding of a gob encoding gives back the same application state (a library fact) — the
driver saves, loads and compares at every height of every history.
-/
import Shutter.Model.App
import Shutter.Proofs.SaveFile
import Shutter.Generated.PersistFacts

namespace Shutter.Properties.C13
open Shutter Shutter.App Shutter.SaveFile

/-- **Replay.**  A node that stops after `before`, is restarted with the state it had then, and
    replays `after` produces the outputs and the final state of a node that never stopped. -/
theorem C13_replay (a : App.App) (before after : List (Order × App.Op)) :
    a.runWith (before ++ after) =
      ((a.runWith before).1.runWith after |>.1,
        (a.runWith before).2 ++ ((a.runWith before).1.runWith after).2) := by
  induction before generalizing a with
  | nil => simp [App.App.runWith]
  | cons p rest ih =>
    obtain ⟨o, op⟩ := p
    simp only [List.cons_append, App.App.runWith]
    rw [ih]

/-- `commit` resets the two per-block mempool tables and touches nothing else (the model has no clock and no file;
    that the rest of the state is a function of the block sequence is `C09_mempool_irrelevant`). -/
theorem C13_commit_pure (a : App.App) :
    a.commit = { a with checkTx := { a.checkTx with txCounts := [], nonces := [] } } := rfl

/-- after `EndBlock h` and `Commit` the field `lastBlockHeight`, which `Info` reports to Tendermint after a restart, is
    `h` (`Info` and the replay are not modelled) -/
theorem C13_saved_height (a : App.App) (o : Order) (h : Int) :
    ((a.endBlock o h).1.commit).lastBlockHeight = h := rfl

/-- **Atomic save.**  When the final path holds the complete, durable previous encoding, a crash after any number of
    steps of a save (also in the middle of the write, and with un-synced data lost from the end) leaves at the final
    path either exactly the previous encoding or exactly the complete new one. -/
theorem C13_atomic_save (fs : Fs) (tmp final : String) (hne : tmp ≠ final) (old enc : Bytes)
    (hold : fs final = some { data := old, durable := old.length })
    (i j : Nat) (c : Option Bytes)
    (hv : Visible (crashState fs tmp final enc i j) final c) :
    c = some old ∨ c = some enc := by
  by_cases hi : i < 4
  · exact .inl (visible_complete ((crash_final_before fs tmp final hne enc i j hi).trans hold) hv)
  · exact .inr (visible_complete (crash_final_after fs tmp final hne enc i j (Nat.le_of_not_lt hi)) hv)

/-- one save attempt: what it finds at the temp path (left by an earlier crash, cut short by the reboot, removed by an
    operator: anything), the encoding to save, and its crash point as in `crashState` (`4 ≤ i`: the rename is done) -/
structure Attempt where
  leftover : Option File
  enc : Bytes
  i : Nat
  j : Nat

def attempt (tmp final : String) (fs : Fs) (a : Attempt) : Fs :=
  crashState (fs.set tmp a.leftover) tmp final a.enc a.i a.j

def lastSaved (old : Bytes) (as : List Attempt) : Bytes :=
  as.foldl (fun cur a => if 4 ≤ a.i then a.enc else cur) old

/-- **Any history of saves and crashes.**  However many saves a node attempts, wherever each is cut short and whatever
    each finds at the temp path, the state file holds, complete and durable, the encoding of the last save that reached
    its rename (the previous file if none did): a temp file left by a crashed save never reaches the state file of a
    later save. -/
theorem C13_saves_after_crashes (tmp final : String) (hne : tmp ≠ final) (as : List Attempt) (fs : Fs) (old : Bytes)
    (hold : fs final = some { data := old, durable := old.length }) :
    (as.foldl (attempt tmp final) fs) final =
      some { data := lastSaved old as, durable := (lastSaved old as).length } := by
  induction as generalizing fs old with
  | nil => exact hold
  | cons a rest ih =>
    simp only [List.foldl_cons, lastSaved]
    by_cases h4 : 4 ≤ a.i
    · rw [if_pos h4]
      exact ih _ _ (by unfold attempt; exact crash_final_after _ tmp final hne a.enc a.i a.j h4)
    · rw [if_neg h4]
      refine ih _ _ ?_
      unfold attempt
      rw [crash_final_before _ tmp final hne a.enc a.i a.j (Nat.lt_of_not_le h4), Fs.set_other hne.symm]
      exact hold

/-- the steps `PersistToDisk` issues, in source order, as extracted from /repo on this run; the four I/O calls among
    them (`os.Create`, `enc.Encode`, `file.Sync`, `os.Rename`) are `saveOps`, in this order -/
theorem C13_persist_order_pinned :
    Generated.PersistFacts.persistCalls =
      ["tmppath:=app.Gobpath+\".tmp\"", "os.Create(tmppath)", "gob.NewEncoder(file)", "enc.Encode(app)",
       "file.Sync()", "os.Rename(tmppath,app.Gobpath)"] :=
  rfl

/-! non-vacuity of `C13_atomic_save`: a crash one byte into the write shows the old file, a crash after the rename the
    new one -/
example :
    let fs : Fs := fun q => if q = "state.gob" then some { data := [1, 2, 3], durable := 3 } else none
    Visible (crashState fs "state.gob.tmp" "state.gob" [7, 8] 1 1) "state.gob" (some [1, 2, 3]) ∧
    Visible (crashState fs "state.gob.tmp" "state.gob" [7, 8] 4 0) "state.gob" (some [7, 8]) := by
  constructor
  · exact ⟨3, by decide, by decide, by decide⟩
  · exact ⟨2, by decide, by decide, by decide⟩

/-- non-vacuity: a save that crashed after its sync (a long temp file stays behind), then a complete save of a
    shorter encoding: the state file holds exactly the shorter encoding -/
example :
    let fs : Fs := fun q => if q = "state.gob" then some { data := [1], durable := 1 } else none
    (([{ leftover := none, enc := [9, 9, 9, 9, 9], i := 3, j := 0 },
       { leftover := some { data := [9, 9, 9, 9, 9], durable := 5 }, enc := [2, 3], i := 4, j := 0 }] : List Attempt).foldl
      (attempt "state.gob.tmp" "state.gob") fs) "state.gob" = some { data := [2, 3], durable := 2 } := by
  decide

end Shutter.Properties.C13
