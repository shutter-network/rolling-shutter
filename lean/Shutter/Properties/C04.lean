/-
C04 — Gossip validation accepts exactly the well-formed, cryptographically valid messages.

`WellFormedShares` / `WellFormedKeys` are the property's conditions written as propositions; each check of
`Model/Validate.lean` gets its iff and the two theorems put them together.  `Keyed` (primary keys) is what turns
`find?` into membership.  Cryptography is the model's parameter (`decodes`, `verifies`).
-/
import Shutter.Model.Validate
import Shutter.Proofs.Sort
import Shutter.Proofs.List
import Shutter.Proofs.Guard
import Shutter.Proofs.KeepMax
import Shutter.Proofs.Keyed
import Shutter.Generated.SqlFacts

namespace Shutter.Properties.C04
open Shutter.Validate Shutter.Sort List

/-- identities in non-decreasing byte order (adjacent comparison, as the validators do it) -/
def NonDecreasing : List Bytes → Prop
  | [] => True
  | [_] => True
  | a :: b :: rest => bytesLe a b = true ∧ NonDecreasing (b :: rest)

/-- `e` is the `max(eon)` of `GetDKGResultForKeyperConfigIndex`'s subquery for keyper set `c` -/
def IsNewest (eons : List EonRow) (c e : Int) : Prop :=
  (∃ r ∈ eons, r.config = c ∧ r.eon = e) ∧ ∀ r ∈ eons, r.config = c → r.eon ≤ e

/-- the primary keys of `tendermint_batch_config`, `dkg_result` and `decryption_key` -/
def Keyed (db : DB) : Prop :=
  db.configs.Pairwise (fun a b => a.config ≠ b.config) ∧ db.dkgs.Pairwise (fun a b => a.eon ≠ b.eon) ∧
    db.keys.Pairwise (fun a b => ¬ (a.eon = b.eon ∧ a.id = b.id))

/-- the receiver-side conditions of both validators; `d` is the `dkg_result` row of the named keyper set's newest eon.
    Membership is looked up under `int32(eon)` (`wrap32`, as `GetKeyperIndex` does), the result under `eon` itself. -/
def ReceiverGood (cfg : Cfg) (db : DB) (instanceId eon : Nat) (d : DkgRow) : Prop :=
  instanceId = cfg.instanceId ∧ eon ≤ maxInt64 ∧
    (∃ c ∈ db.configs, c.config = wrap32 eon ∧ c.member = true) ∧
    (∃ e, IsNewest db.eons eon e ∧ d ∈ db.dkgs ∧ d.eon = e ∧ d.success = true ∧ d.decodes = true)

def WellFormedShares (cfg : Cfg) (db : DB) (m : SharesMsg) : Prop :=
  ∃ d, ReceiverGood cfg db m.instanceId m.eon d ∧
    1 ≤ m.shares.length ∧ m.shares.length ≤ cfg.maxKeys ∧
    m.keyperIndex < d.n ∧
    (∀ s ∈ m.shares, s.decodes = true ∧ s.verifies = true) ∧
    NonDecreasing (m.shares.map (·.id))

/-- a key is fine if it is the valid epoch key for its identity, or byte-identical to the key stored for it -/
def KeyFine (db : DB) (eon : Int) (k : Key) : Prop :=
  k.decodes = true ∧ (k.verifies = true ∨ ∃ s ∈ db.keys, s.eon = eon ∧ s.id = k.id ∧ s.raw = k.raw)

def WellFormedKeys (cfg : Cfg) (db : DB) (m : KeysMsg) : Prop :=
  ∃ d, ReceiverGood cfg db m.instanceId m.eon d ∧
    1 ≤ m.keys.length ∧ m.keys.length ≤ cfg.maxKeys ∧
    (∀ k ∈ m.keys, KeyFine db m.eon k) ∧
    NonDecreasing (m.keys.map (·.id))

theorem storedKey_iff {db : DB} (hk : Keyed db) (eon : Int) (id : Bytes) (s : StoredKey) :
    storedKey db eon id = some s ↔ s ∈ db.keys ∧ s.eon = eon ∧ s.id = id := by
  have h := Shutter.Keyed.find?_eq_some_iff (key := fun s : StoredKey => (s.eon, s.id)) (hk.2.2.imp fun h e => h (by simpa using e))
    (eon, id) s
  simpa [storedKey] using h

theorem storedSame_iff {db : DB} (hk : Keyed db) (eon : Int) (k : Key) :
    storedSame db eon k = true ↔ ∃ s ∈ db.keys, s.eon = eon ∧ s.id = k.id ∧ s.raw = k.raw := by
  have : storedSame db eon k = true ↔ ∃ s, storedKey db eon k.id = some s ∧ s.raw = k.raw := by
    unfold storedSame
    cases storedKey db eon k.id <;> simp
  simp only [this, storedKey_iff hk, and_assoc]

theorem maxEon_iff (eons : List EonRow) (c e : Int) : maxEon eons c = some e ↔ IsNewest eons c e := by
  -- the model's `match acc` in `maxStep` is `keepMax`'s
  have hfold : maxEon eons c = eons.foldl (keepMax (fun r : EonRow => r.config = c) EonRow.eon id) none := by
    unfold maxEon
    congr
    funext acc r
    cases acc <;> rfl
  have spec : ∀ e, maxEon eons c = some e → IsNewest eons c e := fun e h =>
    foldl_keepMax_none (fun r : EonRow => r.config = c) EonRow.eon id (hfold ▸ h)
  refine ⟨spec e, fun ⟨⟨r, hr, hc, he⟩, hmax⟩ => ?_⟩
  -- the fold finds some `e'`, a newest eon of the set like `e`: each is no smaller than the other
  obtain ⟨e', he'⟩ := Option.isSome_iff_exists.1
    (hfold ▸ foldl_keepMax_isSome (fun r : EonRow => r.config = c) EonRow.eon id eons none (.inr ⟨r, hr, hc⟩))
  obtain ⟨⟨r', hr', hc', rfl⟩, hmax'⟩ := spec e' he'
  rw [he', Int.le_antisymm (hmax r' hr' hc') (he ▸ hmax' r hr hc)]

theorem dkgFor_iff {db : DB} (hk : Keyed db) (c : Int) (d : DkgRow) :
    dkgFor db c = some d ↔ IsNewest db.eons c d.eon ∧ d ∈ db.dkgs := by
  have : dkgFor db c = (maxEon db.eons c).bind fun e => db.dkgs.find? (fun d => d.eon = e) := by
    unfold dkgFor
    cases maxEon db.eons c <;> rfl
  simp [this, Option.bind_eq_some_iff, maxEon_iff, Shutter.Keyed.find?_eq_some_iff hk.2.1]

theorem receiverOK_eq_some_iff (cfg : Cfg) (db : DB) (instanceId eon : Nat) (d : DkgRow) :
    receiverOK cfg db instanceId eon = some d ↔
      instanceId = cfg.instanceId ∧ eon ≤ maxInt64 ∧
      (∃ c, db.configs.find? (fun r => r.config = wrap32 eon) = some c ∧ c.member = true) ∧
      dkgFor db eon = some d ∧ d.success = true ∧ d.decodes = true := by
  unfold receiverOK
  cases db.configs.find? (fun r => r.config = wrap32 eon) with
  | none => simp
  | some c =>
    cases dkgFor db eon with
    | none => simp
    | some d' =>
      have : (d'.success = true ∧ d'.decodes = true) ∧ d' = d ↔ d' = d ∧ d.success = true ∧ d.decodes = true :=
        and_comm.trans (and_congr_right fun e => by rw [e])
      simp [this]

theorem receiverOK_iff {cfg : Cfg} {db : DB} (hk : Keyed db) (instanceId eon : Nat) (d : DkgRow) :
    receiverOK cfg db instanceId eon = some d ↔ ReceiverGood cfg db instanceId eon d := by
  unfold ReceiverGood
  simp only [receiverOK_eq_some_iff, Shutter.Keyed.find?_eq_some_iff hk.1, dkgFor_iff hk, and_assoc]
  -- the sides differ in the last clause only, where `ReceiverGood` names the newest eon: it is `d.eon`
  refine and_congr_right fun _ => and_congr_right fun _ => and_congr_right fun _ => ?_
  exact ⟨fun ⟨h1, h2, h3⟩ => ⟨_, h1, h2, rfl, h3⟩, fun ⟨_, h1, h2, e, h3⟩ => e ▸ ⟨h1, h2, h3⟩⟩

/-- a loop that tests every element and compares its identity with the one before: `step` is one turn of it -/
theorem chain_iff {α : Type} {ident : α → Bytes} {ok : α → Prop} (f : Option Bytes → List α → Bool)
    (nil : ∀ prev, f prev [] = true)
    (step : ∀ prev x rest, f prev (x :: rest) = true ↔
      (ok x ∧ ∀ p, prev = some p → bytesLe p (ident x) = true) ∧ f (some (ident x)) rest = true)
    (prev : Option Bytes) (l : List α) :
    f prev l = true ↔ (∀ x ∈ l, ok x) ∧ NonDecreasing (prev.toList ++ l.map ident) := by
  induction l generalizing prev with
  | nil => cases prev <;> simp [nil, NonDecreasing]
  | cons x rest ih =>
    rw [step, ih, map_cons, forall_mem_cons, and_and_and_comm]
    cases prev <;> simp [NonDecreasing]

theorem checkShares_iff (prev : Option Bytes) (l : List Share) :
    checkShares prev l = true ↔
      (∀ s ∈ l, s.decodes = true ∧ s.verifies = true) ∧ NonDecreasing (prev.toList ++ l.map (·.id)) := by
  refine chain_iff checkShares (fun _ => rfl) (fun prev s rest => ?_) prev l
  cases prev <;> simp [checkShares]

theorem checkKeys_iff {db : DB} (hk : Keyed db) (eon : Int) (prev : Option Bytes) (l : List Key) :
    checkKeys db eon prev l = true ↔
      (∀ k ∈ l, KeyFine db eon k) ∧ NonDecreasing (prev.toList ++ l.map (·.id)) := by
  refine chain_iff (checkKeys db eon) (fun _ => rfl) (fun prev k rest => ?_) prev l
  -- with an identity before, the loop compares with it first and then looks at the key; `step` has the key first
  cases prev with
  | none => simp [checkKeys, KeyFine, storedSame_iff hk, or_comm]
  | some p =>
    simp [checkKeys, KeyFine, storedSame_iff hk, or_comm, and_right_comm (b := bytesLe p k.id = true)]

theorem validateShares_accept_iff (cfg : Cfg) (db : DB) (m : SharesMsg) :
    validateShares cfg db m = .accept ↔
      m.shares.all (·.decodes) = true ∧ ∃ d, receiverOK cfg db m.instanceId m.eon = some d ∧
        1 ≤ m.shares.length ∧ m.shares.length ≤ cfg.maxKeys ∧ m.keyperIndex < d.n ∧
        checkShares none m.shares = true := by
  unfold validateShares
  cases receiverOK cfg db m.instanceId m.eon <;>
    simp [ite_left_eq_iff, Nat.one_le_iff_ne_zero]

theorem validateKeys_accept_iff (cfg : Cfg) (db : DB) (m : KeysMsg) :
    validateKeys cfg db m = .accept ↔
      m.keys.all (·.decodes) = true ∧ ∃ d, receiverOK cfg db m.instanceId m.eon = some d ∧
        1 ≤ m.keys.length ∧ m.keys.length ≤ cfg.maxKeys ∧ checkKeys db m.eon none m.keys = true := by
  unfold validateKeys
  cases receiverOK cfg db m.instanceId m.eon <;>
    simp [ite_left_eq_iff, Nat.one_le_iff_ne_zero]

/-- **Key-share messages: accepted exactly when well-formed.**  Over a receiver database with its primary keys, the
    combined validator accepts iff the receiver conditions hold, the message carries between one and `maxKeys` shares
    with non-decreasing identities, the claimed sender index exists, and every share decodes and verifies. -/
theorem C04_shares_iff (cfg : Cfg) (db : DB) (hk : Keyed db) (m : SharesMsg) :
    validateShares cfg db m = .accept ↔ WellFormedShares cfg db m := by
  unfold WellFormedShares
  simp only [validateShares_accept_iff, receiverOK_iff hk, checkShares_iff, Option.toList_none, nil_append]
  -- the envelope's test that every share decodes is part of what the loop tests
  exact and_iff_right_of_imp fun ⟨_, _, _, _, _, hs, _⟩ => all_eq_true.2 fun s h => (hs s h).1

/-- **Keys messages: accepted exactly when well-formed.**  The same without the sender index; a key passes if it
    decodes and is the valid epoch key for its identity or byte-identical to the key already stored for it. -/
theorem C04_keys_iff (cfg : Cfg) (db : DB) (hk : Keyed db) (m : KeysMsg) :
    validateKeys cfg db m = .accept ↔ WellFormedKeys cfg db m := by
  unfold WellFormedKeys
  simp only [validateKeys_accept_iff, receiverOK_iff hk, checkKeys_iff hk, Option.toList_none, nil_append]
  exact and_iff_right_of_imp fun ⟨_, _, _, _, hs, _⟩ => all_eq_true.2 fun k h => (hs k h).1

/-- **No effect unless accepted.**  On the receive path a message that the combined validator does not
    accept leaves the state unchanged and produces no outgoing message, whatever the handler would do. -/
theorem C04_no_effect {σ μ out : Type} (validate : σ → μ → Verdict) (handle : σ → μ → σ × List out) (s : σ) (m : μ)
    (h : validate s m ≠ .accept) : receive validate handle s m = (s, []) := by
  fun_cases receive validate handle s m with
  | case1 hv => exact absurd hv h
  | case2 _ => rfl

theorem combineFrom_accept_iff (ig : Bool) (vs : List V3) :
    combineFrom ig vs = .accept ↔ ig = false ∧ ∀ v ∈ vs, v = .accept := by
  induction vs generalizing ig with
  | nil => cases ig <;> simp [combineFrom]
  | cons v rest ih => cases v <;> simp [combineFrom, ih]

/-- **Several validators on one topic.**  The combined verdict is accept exactly when every registered
    validator accepts; one reject, ignore or unknown value among them is enough for the message not to be
    handled. -/
theorem C04_combine_accept_iff (vs : List V3) : combine vs = .accept ↔ ∀ v ∈ vs, v = .accept := by
  unfold combine
  rw [combineFrom_accept_iff]
  simp

/-- adjacent comparison is the same as pairwise order, because the byte order is transitive -/
theorem C04_nondecreasing_pairwise (l : List Bytes) :
    NonDecreasing l ↔ l.Pairwise (fun a b => bytesLe a b = true) :=
  adjacent_iff_pairwise bytesLe_trans trivial (fun _ => trivial) (fun _ _ _ => Iff.rfl) l

/-- the SQL behind the lookups, as extracted from the source on this run -/
theorem C04_sql_pinned :
    Shutter.Generated.SqlFacts.keyper_GetDKGResultForKeyperConfigIndex =
      "SELECT eon, success, error, pure_result FROM dkg_result WHERE eon = (SELECT max(eon) FROM eons WHERE keyper_config_index = $1)" ∧
    Shutter.Generated.SqlFacts.keyper_GetBatchConfig =
      "SELECT keyper_config_index, height, keypers, threshold, started, activation_block_number FROM tendermint_batch_config WHERE keyper_config_index = $1" ∧
    Shutter.Generated.SqlFacts.keyper_GetDecryptionKey =
      "SELECT eon, epoch_id, decryption_key FROM decryption_key WHERE eon = $1 AND epoch_id = $2" :=
  ⟨rfl, rfl, rfl⟩

def exDB : DB :=
  { configs := [{ config := 0, member := true }, { config := 1, member := false }],
    eons := [{ eon := 3, config := 0 }, { eon := 4, config := 1 }],
    dkgs := [{ eon := 3, success := true, decodes := true, n := 3 }],
    keys := [{ eon := 0, id := [9], raw := [1, 2] }] }

def exCfg : Cfg := { instanceId := 42, maxKeys := 3 }

example : Keyed exDB := by unfold Keyed exDB; decide

def okShare (id : Bytes) : Share := { id := id, decodes := true, verifies := true }
def exShares (idx : Nat) (l : List Share) : SharesMsg := { instanceId := 42, eon := 0, keyperIndex := idx, shares := l }
def exKeys (raw : Bytes) : KeysMsg :=
  { instanceId := 42, eon := 0, keys := [{ id := [9], decodes := true, verifies := false, raw := raw }] }

/-! accepted with a repeated identity; index 3 ≥ n = 3 rejected; decreasing identities rejected; a key that does not
    verify is accepted when byte-identical to the stored one, rejected otherwise -/
example : validateShares exCfg exDB (exShares 2 [okShare [1], okShare [1], okShare [2]]) = .accept := by decide
example : validateShares exCfg exDB (exShares 3 [okShare [1]]) = .reject := by decide
example : validateShares exCfg exDB (exShares 2 [okShare [2], okShare [1]]) = .reject := by decide
example : validateKeys exCfg exDB (exKeys [1, 2]) = .accept := by decide
example : validateKeys exCfg exDB (exKeys [1, 3]) = .reject := by decide

end Shutter.Properties.C04
