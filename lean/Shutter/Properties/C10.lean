/-
C10 — No transaction can crash shuttermint; refused transactions have no effect.

"Never panics" for the model means: the two partial operations of the Go code on this path
(`LastConfig` on an empty `Configs`, `Candidates[idx]` in `Outcome`) are never reached outside their
domain on a reachable state — `C10_total_lastConfig`, `C10_total_outcome` — so the totalised
definitions of the model (`getD default`, `[i]?`) never use their default.  Panics inside the byte
layer (base64, signature recovery, protobuf) are outside the model and are exercised by the driver.
-/
import Shutter.Proofs.AppOutsider
import Shutter.Proofs.AppNonint
import Shutter.Proofs.AppVoting

namespace Shutter.Properties.C10
open Shutter Shutter.App Shutter.App.App

/-- a history: ABCI calls, each under an arbitrary map iteration order -/
abbrev History := List (Order × Op)

def reach (chainId : String) (keypers : List Addr) (threshold initialEon : Nat) (fork : Fork)
    (devMode : Bool) (validators : List (PubKey × Int)) (h : History) : App.App :=
  ((App.App.init chainId keypers threshold initialEon fork devMode validators).runWith h).1

/-- **Malformed, foreign-chain and replayed transactions are refused and leave the state untouched.** -/
theorem C10_refused_untouched (a : App.App) (o : Order) (tx : Tx)
    (h : tx = .undecodable ∨
      (∃ s c n p, tx = .msg s c n p ∧ (c ≠ a.chainId ∨ a.nonces.contains (s, n) = true))) :
    a.deliverTx o tx = (a, errResp) ∧ (a.checkTxOp tx) = (a, 1) := by
  rcases h with rfl | ⟨s, c, n, p, rfl, hc | hn⟩
  · exact ⟨rfl, rfl⟩
  · exact ⟨deliverTx_of_chainId_ne o p hc, by simp only [checkTxOp]; rw [if_pos hc]⟩
  · exact ⟨deliverTx_of_nonce_mem o p hn, by simp only [checkTxOp]; rw [if_pos hn, ite_self]⟩

/-- **The mempool refuses senders that are not on its member list** (whenever the list is non-empty);
    `C10_members_invariant` relates the list to the accepted keyper sets, one call at a time. -/
theorem C10_checktx_outsider (a : App.App) (s : Addr) (c : String) (n : Nat) (p : Payload)
    (hm : a.checkTx.members ≠ []) (hout : a.checkTx.members.contains s = false) :
    a.checkTxOp (.msg s c n p) = (a, 1) := by
  have hmem : (decide (a.checkTx.members.length > 0) && !a.checkTx.members.contains s) = true := by
    rw [hout, decide_eq_true (List.length_pos_iff.2 hm)]; rfl
  simp only [checkTxOp]
  rw [if_pos hmem, ite_self, ite_self]

/-- **After a call the member list of the mempool check holds exactly the keypers of the accepted configurations**,
    if before the call it was the concatenation of their keyper lists. -/
theorem C10_members_invariant (a : App.App) (o : Order) (op : Op)
    (h : a.checkTx.members = allMembers a.configs) (k : Addr) :
    (a.stepWith o op).1.checkTx.members.contains k = (a.stepWith o op).1.isKeyper k := by
  rw [stepWith_members a o op h]
  unfold allMembers App.isKeyper BatchConfig.isKeyper
  induction (a.stepWith o op).1.configs with
  | nil => rfl
  | cons c rest ih =>
    rw [List.flatMap_cons, List.any_cons, ← ih]
    simp

/-- **A transaction from outside every accepted keyper set has no effect even when a block includes
    it**: on every reachable state it is answered with a non-zero code and no events, and the state
    changes in nothing but the record of its own (signer, nonce) pair. -/
theorem C10_outsider_no_effect (chainId : String) (keypers : List Addr) (threshold initialEon : Nat)
    (fork : Fork) (devMode : Bool) (validators : List (PubKey × Int)) (h : History)
    (o : Order) (s : Addr) (c : String) (n : Nat) (p : Payload) :
    let a := reach chainId keypers threshold initialEon fork devMode validators h
    a.isKeyper s = false →
    (a.deliverTx o (.msg s c n p)).2.refused ∧
    ((a.deliverTx o (.msg s c n p)).1 = a ∨
     (a.deliverTx o (.msg s c n p)).1 = a.setNonces (a.nonces ++ [(s, n)])) := by
  intro a hout
  have inv : DInv a := runWith_DInv init_DInv h
  -- `deliverTx_cases` speaks of every state that agrees with `a` on chain id and the signer's nonces; taken at `a`
  rcases deliverTx_cases o a (.msg s c n p) with he | ⟨s', c', n', p', htx, he⟩ <;> rw [he a rfl fun _ _ _ => rfl]
  · exact ⟨Resp.refused_of (.inl rfl), .inl rfl⟩
  · cases htx
    have := deliverMessage_outsider o (a := { a with nonces := a.nonces ++ [(s, n)] }) (DInv_of_core inv rfl rfl) hout p
    exact ⟨this.2, .inr this.1⟩

/-- **Noninterference.**  From two states that differ only in executed-nonce records of sender `s`, every later call
    that is not a transaction of `s` itself is answered identically — in particular with and without an outsider's
    transaction in the block. -/
theorem C10_noninterference (a : App.App) (s : Addr) (extra : List (Addr × Nat))
    (hextra : ∀ e ∈ extra, e.1 = s) (later : History)
    (hlater : ∀ q ∈ later, q.2.signer? ≠ some s) :
    (a.runWith later).2 = ((a.setNonces (a.nonces ++ extra)).runWith later).2 := by
  have hag : AgreeBut s a (a.setNonces (a.nonces ++ extra)) := by
    refine ⟨a.nonces ++ extra, rfl, ?_⟩
    intro x n hx
    rw [List.contains_append]
    have : extra.contains (x, n) = false :=
      Bool.eq_false_iff.2 fun hc => hx (hextra (x, n) (List.contains_iff_mem.1 hc))
    rw [this, Bool.or_false]
  exact (runWith_agree hag later hlater).1

/-- **`LastConfig` never panics**: the configuration list is never empty on a state reached from a valid genesis by
    calls with `Valid` orders and `Sized` messages. -/
theorem C10_total_lastConfig (chainId : String) (keypers : List Addr)
    (threshold initialEon : Nat) (fork : Fork) (devMode : Bool) (validators : List (PubKey × Int))
    (hvalid : (genesisConfig keypers threshold).valid = true) (hsized : keypers.length < 2 ^ 63)
    (h : History) (hok : ∀ q ∈ h, q.1.Valid ∧ q.2.Sized) :
    (reach chainId keypers threshold initialEon fork devMode validators h).configs ≠ [] :=
  (runWith_VInv (init_VInv hvalid hsized) h hok).nonempty

/-- **`Outcome` never indexes past the candidate list.** -/
theorem C10_total_outcome {T : Type} [DecidableEq T] (v : Voting T) (o : Order) (r : Int) (i : Nat)
    (h : v.outcomeIndex o r = some i) : i < v.candidates.length := by
  unfold Voting.outcomeIndex at h
  exact (outcomeIndexOn_some h).1

/-- **A structurally invalid configuration is refused whoever sends it** — threshold zero or above the number
    of keypers (any natural, so also 2^63 and above), no keypers, an address of the wrong length, a repeated
    address: non-zero code, no events, state unchanged. -/
theorem C10_malformed_config_refused (o : Order) (app : App.App) (sender : Addr) (act thr idx : Nat) (ks : List Raw)
    (h : thr = 0 ∨ ks.length < thr ∨ ks = [] ∨ parseAddresses ks = none ∨
      (∃ l, parseAddresses ks = some l ∧ uniqueAddrs l = false)) :
    (deliverBatchConfig o app sender act thr idx ks).1 = app ∧
      ((deliverBatchConfig o app sender act thr idx ks).2 = errResp ∨
       (deliverBatchConfig o app sender act thr idx ks).2 = seenResp) := by
  -- a vote is only admitted for a configuration that parses and passes `checkConfig`, hence is valid
  have hinvalid : ∀ bc, batchConfigFromMessage act thr idx ks = some bc → app.checkConfig bc = true → False := by
    intro bc hp hck
    obtain ⟨l, hl, hu, rfl⟩ := batchConfigFromMessage_some hp
    have hlen := parseAddresses_length hl
    unfold checkConfig BatchConfig.valid at hck
    simp only [Bool.and_eq_true, bne_iff_ne, ne_eq, decide_eq_true_eq] at hck
    rcases h with h | h | h | h | ⟨l', hl', hdup⟩
    · exact hck.1.1.1.2 h
    · omega
    · subst h
      exact hck.1.1.1.1 (by simpa using hlen)
    · rw [hl] at h
      cases h
    · rw [hl] at hl'
      cases hl'
      rw [hu] at hdup
      cases hdup
  obtain ⟨F, hx, e⟩ := deliverMessage_cases o app sender (.batchConfig act thr idx ks)
  rw [show deliverBatchConfig o app sender act thr idx ks = _ from e]
  cases hx with
  | refused hr => exact ⟨rfl, hr⟩
  | register hp => cases hp
  | vote hp hck | accept hp hck => exact (hinvalid _ hp hck).elim

/-- **A check-in with a validator key that is not 32 bytes or an encryption key that does not decode is refused
    without a trace**, whoever sends it and whatever was stored before. -/
theorem C10_malformed_checkin_refused (app : App.App) (sender : Addr) (vk : Raw) (encOk : Bool) (ek : Blob)
    (h : vk.len ≠ 32 ∨ encOk = false) :
    (deliverCheckIn app sender vk encOk ek).1 = app ∧
      ((deliverCheckIn app sender vk encOk ek).2 = errResp ∨ (deliverCheckIn app sender vk encOk ek).2 = seenResp) := by
  obtain ⟨F, hx, e⟩ := deliverMessage_cases Order.canonical app sender (.checkIn vk encOk ek)
  rw [show deliverCheckIn app sender vk encOk ek = _ from e]
  cases hx with
  | refused hr => exact ⟨rfl, hr⟩
  | register hp => cases hp
  | checkIn _ hlen hok =>
    rcases h with h | h
    · exact absurd hlen h
    · rw [hok] at h
      cases h

/-! non-vacuity: an outsider exists on a reachable state and its transaction is refused -/
example :
    let a := reach "c0" [1, 2, 3] 2 0 { enabled := false, height := 0 } false [(100, 10)] []
    a.isKeyper 9 = false ∧ (a.deliverTx Order.canonical (.msg 9 "c0" 1 (.blockSeen 5))).2 = errResp := by
  decide

end Shutter.Properties.C10
