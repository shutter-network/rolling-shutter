/-
C18 — Read-only mode blocks every state-changing HTTP endpoint.

`dispatch` models chi's routing, `decision` the gate (`Model/Api.lean`); `spec` and `routes` are regenerated from
the source.  `C18_blocked` holds for any tables with `W`; what else the model takes from the source (where the gate is
installed, that it keeps no state) is fixed by the `rfl` theorems about `Generated.ApiFacts`.
-/
import Shutter.Proofs.Api
import Shutter.Proofs.List
import Shutter.Generated.ApiFacts

namespace Shutter.Properties.C18
open Shutter.Api

/-- the operations of the OpenAPI document embedded in the generated server (what the gate reads) -/
def spec : List SpecOp :=
  Generated.ApiFacts.specOps.map (fun e => { template := e.1.toList, method := e.2.1, opId := e.2.2.1, readOnly := e.2.2.2 = "true" })

/-- the routes the generated chi server registers -/
def routes : List Route :=
  Generated.ApiFacts.routes.map (fun e => { method := e.1, pattern := e.2.1.toList, handler := e.2.2 })

/-- **Blocked.**  For well-formed tables: if the router hands a request to a handler of an operation that is not
    marked read-only, then with write operations disabled the gate does not let it through — whether the gate sees
    the same path as the router or its percent-decoded form, and whatever order Go ranges over the paths map. -/
theorem C18_blocked (spec : List SpecOp) (routes : List Route) (hW : W spec routes = true)
    (unescape : Path → Path) (hun : ∀ p : Path, p.contains '%' = false → unescape p = p)
    (listing : List Path) (method : String) (routePath path : Path)
    (hpath : path = routePath ∨ path = unescape routePath)
    (r : Route) (hd : dispatch routes method routePath = some r)
    (o : SpecOp) (ho : opOf spec r = some o) (hwrite : o.readOnly = false) :
    decision spec listing false method path ≠ .allow := by
  have hm := List.find?_some hd
  have ht := List.find?_some ho
  simp only [Bool.and_eq_true, decide_eq_true_eq] at hm ht
  -- the route serves a state-changing operation, so its pattern is literal and matches only itself
  obtain ⟨hbrace, hpercent⟩ := W_literal hW (List.mem_of_find?_eq_some hd) ho hwrite
  have hrp : routePath = r.pattern := templateMatches_literal hbrace hm.2
  have hp : path = r.pattern := by
    rcases hpath with h | h
    · rw [h, hrp]
    · rw [h, hrp, hun r.pattern hpercent]
  -- that path is a key of the document, under which the gate looks up what `opOf` does
  have hkey : r.pattern ∈ templatesOf spec := ht.1 ▸ template_mem_templatesOf (List.mem_of_find?_eq_some ho)
  rw [hp, ← hm.1, decision, findOperation_key spec listing hkey, show spec.find? _ = some o from ho]
  cases knownMethod r.method <;> simp [hwrite]

/-- `spec` with the characters of its templates written out, so that `decide` below meets lists of characters and
    not `String.toList` of a literal (which the kernel would evaluate by decoding UTF-8).  A literal is
    `String.ofList` of its characters to kernel and unifier alike, so `String.toList_ofList` yields them by
    unification; `?l` is named so that nothing before the final `rfl` can assign it. -/
def specChars : { l : List SpecOp // spec = l } := by
  refine ⟨?l, ?eq⟩
  case eq =>
    dsimp only [spec, Generated.ApiFacts.specOps, List.map]
    repeat rewrite [String.toList_ofList]
    rfl

def routesChars : { l : List Route // routes = l } := by
  refine ⟨?l, ?eq⟩
  case eq =>
    dsimp only [routes, Generated.ApiFacts.routes, List.map]
    repeat rewrite [String.toList_ofList]
    rfl

/-- **The regenerated tables are well-formed**: `W` holds for the operations and routes extracted from the source on
    this run. -/
theorem C18_tables_wellformed : W spec routes = true := by
  rw [specChars.2, routesChars.2]
  -- `+kernel`: otherwise the elaborator evaluates `W` itself before the kernel does it again
  decide +kernel

/-- the state-changing operations are exactly shutdown and the decryption trigger -/
theorem C18_write_ops_pinned :
    (spec.filter (fun o => !o.readOnly)).map (·.opId) = ["SubmitDecryptionTrigger", "Shutdown"] := rfl

/-- the document embedded in the generated server agrees with oapi.yaml in path, method and read-only mark of every
    operation -/
theorem C18_embedded_is_yaml :
    Generated.ApiFacts.specOps.map (fun e => (e.1, e.2.1, e.2.2.2)) =
      Generated.ApiFacts.yamlOps.map (fun e => (e.1, e.2.1, e.2.2.2)) := rfl

/-- the gate is installed before the handlers, inside the `/v1` mount; the only other registrations on the outer
    router are the document, the metrics and the static files of the swagger UI; the generated handlers are
    obtained nowhere else -/
theorem C18_setup_pinned :
    Generated.ApiFacts.setupCalls =
      ["setupRouter:router.Use(middleware.Logger)", "setupRouter:router.Use(middleware.Recoverer)",
       "setupRouter:router.Mount(\"/v1\",http.StripPrefix(\"/v1\",srv.setupAPIRouter(swagger)))",
       "setupRouter:router.Get(\"/api.json\")", "setupRouter:router.Mount(\"/metrics\",promhttp.Handler())",
       "setupRouter:router.Mount(path,http.StripPrefix(path,fs))",
       "setupAPIRouter:router.Use(chimiddleware.OapiRequestValidator(swagger))",
       "setupAPIRouter:router.Use(kproapi.ConfigMiddleware(srv.config.GetEnableWriteOperations()))",
       "setupAPIRouter:kproapi.HandlerFromMux(srv,router)"] := rfl

/-- the gate keeps nothing from one request to the next: apart from the request, its code reaches only the
    configured switch, the document getter, the next handler and three functions of its package that read their
    arguments.  A memo of earlier decisions, a counter or a package-level table shows up here as a new name; the
    decision model (`decision`) has no such state, so with one the model would no longer be the gate. -/
theorem C18_gate_stateless :
    Generated.ApiFacts.gateReads =
      ["enableWriteOperations", "findOperation", "getSpec", "isReadOnlyEndpoint", "next", "shouldEnableEndpoint"] :=
  rfl

/-- **Blocked, on the tables of this run.** -/
theorem C18_blocked_now (unescape : Path → Path) (hun : ∀ p : Path, p.contains '%' = false → unescape p = p)
    (listing : List Path) (method : String) (routePath path : Path)
    (hpath : path = routePath ∨ path = unescape routePath)
    (r : Route) (hd : dispatch routes method routePath = some r)
    (o : SpecOp) (ho : opOf spec r = some o) (hwrite : o.readOnly = false) :
    decision spec listing false method path ≠ .allow :=
  C18_blocked spec routes C18_tables_wellformed unescape hun listing method routePath path hpath r hd o ho hwrite

/-- **Read-only operations stay reachable**: two instances on the regenerated tables, in every order of the paths
    map; `decision_of_mem` gives the same for every read-only operation on the path that is its template. -/
theorem C18_readonly_reachable (listing : List Path) :
    decision spec listing false "GET" "/ping".toList = .allow ∧
    decision spec listing false "GET" "/eons".toList = .allow :=
  ⟨decision_of_mem C18_tables_wellformed
      (List.mem_map.2 ⟨("/ping", "GET", "Ping", "true"), by decide +kernel, rfl⟩) rfl listing false,
   decision_of_mem C18_tables_wellformed
      (List.mem_map.2 ⟨("/eons", "GET", "GetEons", "true"), by decide +kernel, rfl⟩) rfl listing false⟩

/-- **Deterministic.**  For well-formed tables the gate's decision for a brace-free request path does
    not depend on the order in which Go ranges over the paths map. -/
theorem C18_deterministic (spec : List SpecOp) (routes : List Route) (hW : W spec routes = true)
    (l₁ l₂ : List Path) (h₁ : ∀ t, t ∈ l₁ ↔ t ∈ templatesOf spec) (h₂ : ∀ t, t ∈ l₂ ↔ t ∈ templatesOf spec)
    (we : Bool) (method : String) (path : Path) (hplain : path.contains '{' = false) :
    decision spec l₁ we method path = decision spec l₂ we method path := by
  suffices h : findTemplate (templatesOf spec) l₁ path = findTemplate (templatesOf spec) l₂ path by
    unfold decision findOperation
    rw [h]
  unfold findTemplate
  split
  · rfl
  · rename_i hc
    -- the normalised comparison finds nothing that the exact test missed
    have hnone : ∀ l : List Path, (∀ t, t ∈ l ↔ t ∈ templatesOf spec) →
        l.find? (fun t => decide (normalize t = normalize path)) = none := by
      intro l hl
      rw [List.find?_eq_none]
      intro t ht hq
      rw [normalize_eq_plain hplain (of_decide_eq_true hq)] at ht
      exact hc (List.contains_iff_mem.2 ((hl path).1 ht))
    rw [hnone l₁ h₁, hnone l₂ h₂]
    -- and two different templates, being disjoint, do not both match
    apply find?_unique (fun t => (h₁ t).trans (h₂ t).symm)
    intro a b ha hb hqa hqb
    apply Decidable.byContradiction
    intro hab
    exact disjoint_no_common (W_disjoint hW ((h₁ a).1 ha) ((h₁ b).1 hb) hab) hqa hqb

theorem shutdown_mem : ⟨"/shutdown".toList, "POST", "Shutdown", false⟩ ∈ spec :=
  List.mem_map.2 ⟨("/shutdown", "POST", "Shutdown", "false"), by decide +kernel, rfl⟩

example : dispatch routes "POST" "/shutdown".toList = some ⟨"POST", "/shutdown".toList, "wrapper.Shutdown"⟩ := by
  rw [routesChars.2, String.toList_ofList]
  decide +kernel
example : decision spec (templatesOf spec) false "POST" "/shutdown".toList = .forbidden :=
  decision_of_mem C18_tables_wellformed shutdown_mem rfl _ false
example : decision spec (templatesOf spec) true "POST" "/shutdown".toList = .allow :=
  decision_of_mem C18_tables_wellformed shutdown_mem rfl _ true
example : decision spec (templatesOf spec) false "GET" "/decryptionKey/1/0xab".toList = .allow := by
  rw [specChars.2, String.toList_ofList]
  decide +kernel
example : decision spec (templatesOf spec) false "GET" "/decryptionKey/1/a/b".toList = .notFound := by
  rw [specChars.2, String.toList_ofList]
  decide +kernel
example : decision spec (templatesOf spec) false "POST" "/shutdown/".toList = .notFound := by
  rw [specChars.2, String.toList_ofList]
  decide +kernel

end Shutter.Properties.C18
