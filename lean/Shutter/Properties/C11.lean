/-
C11 — Keyper-set changes need a threshold of the current set; eons are unique.

What an acceptance and a restart imply is spelled out by `Accepted` / `Restarted` (Proofs/AppVoting.lean).
Eon numbers: each start sets the counter to `counter + 1 mod 2^64` (`Accepted.eonFresh`, `Restarted.eonFresh`);
uniqueness across a history is not a theorem here.
-/
import Shutter.Proofs.AppVoting

namespace Shutter.Properties.C11
open Shutter Shutter.App Shutter.App.App

/-- a genesis accepted by `InitChain` (valid, physically sized) -/
structure Genesis where
  chainId : String
  keypers : List Addr
  threshold : Nat
  initialEon : Nat
  fork : Fork
  devMode : Bool
  validators : List (PubKey × Int)
  valid : (genesisConfig keypers threshold).valid = true
  sized : keypers.length < 2 ^ 63

def Genesis.app (g : Genesis) : App.App :=
  App.App.init g.chainId g.keypers g.threshold g.initialEon g.fork g.devMode g.validators

/-- a history: ABCI calls, each executed under an arbitrary map iteration order -/
abbrev History := List (Order × Op)

/-- every order is a permutation (`Valid`) and every message list is below 2^63 entries (`Sized`) -/
def History.Ok (h : History) : Prop := ∀ p ∈ h, p.1.Valid ∧ p.2.Sized

/-- **The vote invariant holds on every reachable state**: every recorded vote is from a member of
    the newest configuration, one per sender, and no candidate has yet reached the threshold. -/
theorem C11_invariant (g : Genesis) (h : History) (hok : h.Ok) : VInv (g.app.runWith h).1 :=
  runWith_VInv (init_VInv g.valid g.sized) h hok

/-- **Acceptance needs a quorum.**  On every reachable state, a transaction that changes the list of configurations
    is a BatchConfig vote, the list grew by exactly that configuration, and the sender together with the earlier
    voters for that identical configuration are at least `threshold(current)` distinct members of the current
    configuration.  `Accepted` says the rest (index, activation block, round reset, fresh eon).  The hypothesis `hs` is
    not used. -/
theorem C11_accept (g : Genesis) (h : History) (hok : h.Ok) (o : Order) (ho : o.Valid) (tx : Tx)
    (hs : tx.Sized) :
    let a := (g.app.runWith h).1
    (a.deliverTx o tx).1.configs ≠ a.configs →
    ∃ signer chain nonce act thr idx ks bc,
      tx = .msg signer chain nonce (.batchConfig act thr idx ks) ∧
      batchConfigFromMessage act thr idx ks = some bc ∧
      Accepted { a with nonces := a.nonces ++ [(signer, nonce)] } signer bc
        (a.deliverTx o tx).1 (a.deliverTx o tx).2 := by
  intro a hne
  have inv : VInv a := C11_invariant g h hok
  -- `deliverTx_cases` speaks of every state that agrees with `a` on chain id and the signer's nonces; taken at `a`
  rcases deliverTx_cases o a tx with he | ⟨signer, chain, nonce, p, rfl, he⟩ <;> rw [he a rfl fun _ _ _ => rfl] at hne ⊢
  · exact absurd rfl hne
  · obtain ⟨F, hx, e⟩ := deliverMessage_cases o { a with nonces := a.nonces ++ [(signer, nonce)] } signer p
    rw [e] at hne ⊢
    cases hx with
    | accept hp hck hk hv hout =>
      exact ⟨signer, chain, nonce, _, _, _, _, _, rfl, hp,
        Accepted.of_accept ho (VInv_of_core inv rfl rfl) hp hck hk hv hout⟩
    | _ => exact absurd rfl hne

/-- **Nothing else adds a configuration.**  BeginBlock, CheckTx and Commit leave the configuration
    list alone and EndBlock only sets progress flags. -/
theorem C11_other_calls (a : App.App) (o : Order) (op : Op) (h : ∀ tx, op ≠ .deliver tx) :
    (a.stepWith o op).1.configs.map BatchConfig.core = a.configs.map BatchConfig.core := by
  rcases stepWith_cases o a op with he | ⟨c, he, -⟩ | ⟨cfgs, ht, hcore, he⟩ | ⟨s, c, n, p, rfl, -⟩
  · rw [he]
  · rw [he]
  · rw [he]
    exact hcore
  · exact absurd rfl (h _)

/-- **One vote per sender and round.**  A second BatchConfig vote of a sender within a round is
    refused (or answered "seen") and changes nothing. -/
theorem C11_one_vote (a : App.App) (o : Order) (sender : Addr) (act thr idx : Nat) (ks : List Raw)
    (hvoted : a.configVoting.votes.contains sender = true) :
    (a.deliverBatchConfig o sender act thr idx ks).1 = a ∧
    (a.deliverBatchConfig o sender act thr idx ks).2.code ≠ 0 := by
  have hno : ∀ bc voting, a.configVoting.addVote sender bc ≠ some voting := by
    intro bc voting hv
    rw [(addVote_some hv).1] at hvoted
    cases hvoted
  obtain ⟨F, hx, e⟩ := deliverMessage_cases o a sender (.batchConfig act thr idx ks)
  rw [show a.deliverBatchConfig o sender act thr idx ks = _ from e]
  cases hx with
  | refused hr => exact ⟨rfl, (Resp.refused_of hr).1⟩
  | register hp => cases hp
  | vote _ _ _ hv | accept _ _ _ hv => exact absurd hv (hno _ _)

/-- **Each (sender, nonce) executes at most once.**  A transaction whose (signer, nonce) pair was
    already executed is refused without any effect, and an executed transaction records its pair. -/
theorem C11_nonce_once (a : App.App) (o : Order) (signer : Addr) (chain : String) (nonce : Nat)
    (p : Payload) :
    (a.nonces.contains (signer, nonce) = true →
        a.deliverTx o (.msg signer chain nonce p) = (a, errResp)) ∧
    (chain = a.chainId → a.nonces.contains (signer, nonce) = false →
        (signer, nonce) ∈ (a.deliverTx o (.msg signer chain nonce p)).1.nonces) := by
  refine ⟨deliverTx_of_nonce_mem o p, fun hc hn => ?_⟩
  rw [deliverTx_exec o p hc hn, (deliverMessage_keeps ..).1]
  exact List.mem_append_right _ List.mem_cons_self

/-- **Restart needs a failure quorum for the newest eon.**  A `DKGResult` transaction emits nothing and leaves the eon
    counter unchanged, or else: the reported eon is not older than the counter, the sender is a keyper of that eon's
    configuration who had not voted, with this vote the `failure` candidate has at least the configuration's
    threshold of votes, and the new eon number is the counter plus one. -/
theorem C11_restart (a : App.App) (o : Order) (ho : o.Valid) (sender : Addr) (eon : Nat) (success : Bool) :
    ((a.deliverDKGResult o sender eon success).1.eonCounter = a.eonCounter ∧
      (a.deliverDKGResult o sender eon success).2.events = []) ∨
    Restarted a sender eon success (a.deliverDKGResult o sender eon success).1
      (a.deliverDKGResult o sender eon success).2 := by
  obtain ⟨F, h, e⟩ := deliverMessage_cases o a sender (.dkgResult eon success)
  rw [show a.deliverDKGResult o sender eon success = _ from e]
  cases h with
  | refused hr => exact .inl ⟨rfl, (Resp.refused_of hr).2⟩
  | register hp => cases hp
  | dkgVote => exact .inl ⟨rfl, rfl⟩
  | restart hd hk hv hout hnew => exact .inr (Restarted.of_restart ho hd hk hv hout hnew)

/-- **A configuration is marked started only on a block-seen quorum of the preceding one.** -/
theorem C11_started (a : App.App) (cfgs : List BatchConfig) (i : Nat) (c : BatchConfig)
    (hnot : c.started = false) (hnow : (endBlockStep a cfgs i c).1.started = true) :
    (cfgs.getD (i - 1) default).threshold ≤ a.seenVotes (cfgs.getD (i - 1) default) c := by
  rw [endBlockStep_started, hnot] at hnow
  exact of_decide_eq_true hnow

/-- **A voted-in configuration lists every keyper once.**  Whatever configuration a vote can name has pairwise
    distinct keypers (so has every configuration `C11_accept` speaks of). -/
theorem C11_voted_keypers_distinct (act thr idx : Nat) (ks : List Raw) (bc : BatchConfig)
    (h : batchConfigFromMessage act thr idx ks = some bc) : bc.keypers.Nodup := by
  obtain ⟨l, -, hu, rfl⟩ := batchConfigFromMessage_some h
  exact uniqueAddrs_nodup l hu

/-- **Started on a quorum of distinct keypers.**  When the preceding configuration lists every keyper once (every
    voted-in one does), the block-seen reports that mark a configuration started come from at least
    `threshold(preceding)` different keypers of it, each with a reported block at or past the activation block. -/
theorem C11_started_distinct (a : App.App) (cfgs : List BatchConfig) (i : Nat) (c : BatchConfig)
    (hnot : c.started = false) (hnow : (endBlockStep a cfgs i c).1.started = true)
    (hnd : (cfgs.getD (i - 1) default).keypers.Nodup) :
    ∃ S : List Addr, S.Nodup ∧ (cfgs.getD (i - 1) default).threshold ≤ S.length ∧
      ∀ k ∈ S, k ∈ (cfgs.getD (i - 1) default).keypers ∧ ∃ b, a.blocksSeen.get? k = some b ∧ c.activation ≤ b := by
  have h := C11_started a cfgs i c hnot hnow
  unfold seenVotes at h
  refine ⟨_, hnd.filter _, h, ?_⟩
  intro k hk
  rw [List.mem_filter] at hk
  refine ⟨hk.1, ?_⟩
  cases hb : a.blocksSeen.get? k with
  | none =>
    rw [hb] at hk
    simp at hk
  | some b =>
    rw [hb] at hk
    exact ⟨b, rfl, by simpa using hk.2⟩

/-! non-vacuity: a concrete reachable state and an accepting vote -/
def g3 : Genesis :=
  { chainId := "c0", keypers := [1, 2, 3], threshold := 2, initialEon := 0,
    fork := { enabled := false, height := 0 }, devMode := false, validators := [(100, 10)],
    valid := by decide, sized := by decide }

def bcTx (signer nonce : Nat) : Tx :=
  .msg signer "c0" nonce (.batchConfig 5 2 1 [⟨20, 1⟩, ⟨20, 2⟩, ⟨20, 4⟩])

example :
    let a := (g3.app.runWith [(Order.canonical, .deliver (bcTx 1 1))]).1
    (a.deliverTx Order.canonical (bcTx 2 2)).1.configs.length = 2 ∧
    (a.deliverTx Order.canonical (bcTx 2 2)).2.events =
      [.batchConfig 5 [1, 2, 4] 2 1, .eonStarted 1 5 1] := by
  decide

end Shutter.Properties.C11
