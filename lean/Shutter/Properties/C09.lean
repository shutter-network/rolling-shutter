/-
C09 — Shuttermint replicas never diverge.

The model's step is a function of (state, call, map-iteration order); the theorems below say the
iteration order is irrelevant on every reachable state, so two replicas fed the same genesis and
block sequence return the same results and hold the same state.  `Generated/AppFacts.lean` (rewritten
from /repo on every run) lists the places where the code ranges over a map or reads anything outside
the block sequence.
-/
import Shutter.Proofs.AppOrder
import Shutter.Generated.AppFacts
import Shutter.Proofs.AppMempool

namespace Shutter.Properties.C09
open Shutter Shutter.App Shutter.App.App

/-- **One call.**  On a well-formed state the result of any ABCI call (response and new state) is
    the same for every two iteration orders of every map the application ranges over. -/
theorem C09_order_irrelevant (o₁ o₂ : Order) (h₁ : o₁.Valid) (h₂ : o₂.Valid) (a : App.App) (hwf : WF a)
    (op : Op) : a.stepWith o₁ op = a.stepWith o₂ op :=
  (stepWith_canonical h₁ a hwf op).trans (stepWith_canonical h₂ a hwf op).symm

/-- **Well-formed at genesis.**  The validator power map of every genesis has one entry per key (`WF`). -/
theorem C09_wf_init (chainId : String) (keypers : List Addr) (threshold initialEon : Nat) (fork : Fork)
    (devMode : Bool) (validators : List (PubKey × Int)) :
    WF (App.App.init chainId keypers threshold initialEon fork devMode validators) :=
  AMap.keys_foldl_nodup (fun _ _ h => AMap.keys_insert_nodup _ h) List.nodup_nil

/-- **Kept by every call.**  Every ABCI call, under any iteration order, keeps `WF`, so `C09_order_irrelevant`
    applies on every reachable state. -/
theorem C09_wf_step (o : Order) (a : App.App) (hwf : WF a) (op : Op) : WF (a.stepWith o op).1 :=
  stepWith_WF o hwf op

/-- **Two replicas.**  Same genesis, same sequence of calls, but each replica ranging over its maps
    in its own arbitrary order at every single call: identical outputs and identical final state. -/
theorem C09_replicas_agree (chainId : String) (keypers : List Addr) (threshold initialEon : Nat)
    (fork : Fork) (devMode : Bool) (validators : List (PubKey × Int))
    (ops : List Op) (orders₁ orders₂ : List Order)
    (hl₁ : orders₁.length = ops.length) (hl₂ : orders₂.length = ops.length)
    (hv₁ : ∀ o ∈ orders₁, o.Valid) (hv₂ : ∀ o ∈ orders₂, o.Valid) :
    let genesis := App.App.init chainId keypers threshold initialEon fork devMode validators
    genesis.runWith (orders₁.zip ops) = genesis.runWith (orders₂.zip ops) := by
  intro genesis
  have e : ∀ orders : List Order, orders.length = ops.length → (∀ o ∈ orders, o.Valid) →
      genesis.runWith (orders.zip ops) = genesis.run ops := fun orders hl hv => by
    rw [runWith_eq_run genesis (C09_wf_init ..) _ (fun p hp => hv p.1 (List.of_mem_zip hp).1),
      List.map_snd_zip (Nat.le_of_eq hl.symm)]
  rw [e orders₁ hl₁ hv₁, e orders₂ hl₂ hv₂]

open Shutter.Mempool

/-- **The mempool is not part of the block sequence.**  On a node with arbitrary mempool state (`withCheck a c`) and
    with mempool checks interleaved anywhere, the block sequence (begin, deliver, end, commit) gets the answers of the
    same node running it alone, and the two final states differ in the mempool bookkeeping only. -/
theorem C09_mempool_irrelevant (h : List (Order × Op)) (a : App.App) (c : CheckTxState) :
    ∃ c', ((withCheck a c).runWith h).1 = withCheck (a.runWith (blockOps h)).1 c' ∧
      blockOuts ((withCheck a c).runWith h).2 = (a.runWith (blockOps h)).2 := by
  induction h generalizing a c with
  | nil => exact ⟨c, rfl, rfl⟩
  | cons p rest ih =>
    obtain ⟨o, op⟩ := p
    cases hop : isBlockOp op with
    | true =>
      -- a block call commutes with the mempool view
      obtain ⟨c1, hs, hout⟩ := stepWith_withCheck o a c op hop
      obtain ⟨c2, h1, h2⟩ := ih (stepWith o a op).1 c1
      simp only [blockOps, blockOuts, List.filter_cons, hop, if_true, runWith, hs, hout]
      exact ⟨c2, h1, congrArg _ h2⟩
    | false =>
      -- a check changes the mempool view only, and its answer is dropped
      cases op with
      | check tx =>
        obtain ⟨c1, hs, hout⟩ := stepWith_check o (withCheck a c) tx
        obtain ⟨c2, h1, h2⟩ := ih a c1
        simp only [blockOps, blockOuts, List.filter_cons, hop, runWith, hs, hout]
        exact ⟨c2, h1, h2⟩
      | _ => cases hop

/-- **Replicas with different mempools.**  Two replicas that execute the same block sequence, with the same iteration
    orders at each call (`blockOps` keeps them; different orders are `C09_replicas_agree`'s matter), answer it
    identically, whatever transactions each of them was asked to check in between. -/
theorem C09_mempool_replicas (a : App.App) (h₁ h₂ : List (Order × Op)) (hb : blockOps h₁ = blockOps h₂) :
    blockOuts (a.runWith h₁).2 = blockOuts (a.runWith h₂).2 := by
  obtain ⟨_, _, e1⟩ := C09_mempool_irrelevant h₁ a a.checkTx
  obtain ⟨_, _, e2⟩ := C09_mempool_irrelevant h₂ a a.checkTx
  rw [withCheck_self] at e1 e2
  rw [e1, e2, hb]

/-- The only places where package `app` (and the event/uniqueness helpers it calls) ranges over a
    map are the four sites covered by `Order`: both loops of `DiffPowermaps`, `ValidatorUpdates`
    (sorted afterwards), and the vote count in `outcomeIndex`. -/
theorem C09_map_ranges_pinned :
    Generated.AppFacts.mapRanges =
      [("DiffPowermaps", "newpm"), ("DiffPowermaps", "oldpm"),
       ("Powermap.ValidatorUpdates", "pm"), ("Voting.outcomeIndex", "v.Votes")] :=
  rfl

/-- Clock, OS, randomness, goroutines are used only by loading and persisting the state file, never
    by a function on the InitChain/BeginBlock/CheckTx/DeliverTx/EndBlock path. -/
theorem C09_clock_calls_pinned :
    Generated.AppFacts.clockCalls =
      [("LoadShutterAppFromFile", "os.IsNotExist"), ("LoadShutterAppFromFile", "os.Open"),
       ("LoadShutterAppFromFile", "time.Now"), ("ShutterApp.PersistToDisk", "os.Create"),
       ("ShutterApp.PersistToDisk", "os.Rename"), ("ShutterApp.PersistToDisk", "time.Now"),
       ("ShutterApp.maybePersistToDisk", "time.Since")] :=
  rfl

/-- the override table in forks.go is the one the model's `forkOverrideEon` encodes -/
theorem C09_fork_overrides_pinned :
    Generated.AppFacts.forkOverrides =
      [("shutter-api-gnosis-1001", "{CheckInUpdate:&ForkHeightOverride{Eon:uint64Ptr(13),}}"),
       ("shutter-api-gnosis-1002", "{CheckInUpdate:&ForkHeightOverride{Eon:uint64Ptr(0),}}"),
       ("shutter-chiado-102000", "{CheckInUpdate:&ForkHeightOverride{Eon:uint64Ptr(13),}}"),
       ("shutter-gnosis-1000", "{CheckInUpdate:&ForkHeightOverride{Eon:uint64Ptr(9),}}"),
       ("shutter-service-chiado-1000", "{CheckInUpdate:&ForkHeightOverride{Eon:uint64Ptr(9),}}")]
    ∧ forkOverrideEon "shutter-api-gnosis-1001" = some 13
    ∧ forkOverrideEon "shutter-api-gnosis-1002" = some 0
    ∧ forkOverrideEon "shutter-chiado-102000" = some 13
    ∧ forkOverrideEon "shutter-gnosis-1000" = some 9
    ∧ forkOverrideEon "shutter-service-chiado-1000" = some 9 :=
  ⟨rfl, by decide +kernel⟩

/-! non-vacuity: a valid non-identity order exists; and with votes T,T,F,F at threshold 2 both candidates reach the
    threshold, so a rule that took the first one met while ranging would depend on the order; `outcomeIndexOn` scans
    the candidate indices in order, so both listings give the candidate of lower index -/
def reverseOrder : Order := { votes := List.reverse, power := List.reverse }

example : reverseOrder.Valid := ⟨fun l => List.reverse_perm l, fun l => List.reverse_perm l⟩

example :
    let v : Voting Bool := { votes := [(1, 0), (2, 0), (3, 1), (4, 1)], candidates := [true, false] }
    v.outcome Order.canonical 2 = some true ∧ v.outcome reverseOrder 2 = some true := by
  decide

end Shutter.Properties.C09
