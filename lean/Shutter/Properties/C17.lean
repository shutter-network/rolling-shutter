/-
C17 — Trigger definitions round-trip, match totally, are never hidden by the filter.

The round trip through bytes (`C17_roundtrip`: definition → RLP item tree → bytes and back, with go-ethereum's
canonical-form checks) rests on the RLP round trip for arbitrary item trees (`C17_rlp_roundtrip`).  That the model's
RLP is go-ethereum's is not proved: the two are compared byte for byte on every run.
-/
import Shutter.Proofs.Rlp

namespace Shutter.Properties.C17
open Shutter.TriggerDef

/-- **Matching is total.**  For every valid definition and every log, whatever its topics, data and offset or length
    words, matching answers yes or no: the model's `oob` (Go's slice-bounds panic) is unreachable. -/
theorem C17_match_total (d : Definition) (h : d.valid = true) (log : Log) :
    ∃ b, matchDef d log = .ok b := by
  fun_cases matchDef d log with
  | case1 => exact ⟨false, rfl⟩
  | case2 => exact matchPreds_isOk d.preds (d.valid_iff.1 h).1 log

/-- **Bounded work.**  Reading any referenced value allocates at most the size of the log data plus
    three words, whatever the reference (valid or not) and whatever the log says about lengths. -/
theorem C17_alloc_bounded (r : ValueRef) (log : Log) :
    ∃ v, getValue r log = .ok v ∧ v.alloc ≤ 3 * word + log.data.length :=
  getValue_isOk_alloc_le r log

/-- **Documented semantics, static reference.**  If the referenced word lies inside the data, the
    value is exactly that word (`offset` 0–3 name the topics, `offset - 4` is the index of the data word). -/
theorem C17_match_spec_static (r : ValueRef) (log : Log) (htop : r.isTopic = false)
    (hdyn : r.dynamic = false) (hin : (r.offset - 4) * word + word ≤ log.data.length) :
    ∃ v, getValue r log = .ok v ∧
      v.bytes = some ((log.data.drop ((r.offset - 4) * word)).take word) :=
  ⟨_, getValue_static htop hdyn, by rw [copyInto_drop hin]⟩

/-- **Documented semantics, topics.**  A topic reference yields the topic at that index (missing
    topics read as absent). -/
theorem C17_match_spec_topic (r : ValueRef) (log : Log) (htop : r.isTopic = true) :
    ∃ v, getValue r log = .ok v ∧ v.bytes = log.topics[r.offset]? :=
  ⟨_, getValue_topic htop, rfl⟩

/-- **Documented semantics, dynamic reference.**  On well-formed ABI data (offset word, length word and the whole
    slice inside the data, itself shorter than 2^64 bytes) the value is exactly `data[off+32 : off+32+len]`. -/
theorem C17_match_spec_dynamic (r : ValueRef) (log : Log) (htop : r.isTopic = false)
    (hdyn : r.dynamic = true)
    (hw1 : (r.offset - 4) * word + word ≤ log.data.length)
    (off : Nat) (hoff : off = bigOfBytes ((log.data.drop ((r.offset - 4) * word)).take word))
    (hw2 : off + word ≤ log.data.length)
    (len : Nat) (hlen : len = bigOfBytes ((log.data.drop off).take word))
    (hw3 : off + word + len ≤ log.data.length) (hsmall : log.data.length < 2 ^ 64) :
    ∃ v, getValue r log = .ok v ∧ v.bytes = some ((log.data.drop (off + word)).take len) := by
  rw [← copyInto_drop hw1] at hoff
  rw [← copyInto_drop hw2] at hlen
  refine ⟨_, getValue_dynamic htop hdyn hoff.symm hlen.symm, ?_⟩
  rw [if_neg (by omega), copyInto_drop hw3]

/-- **A filter exists** for every valid definition. -/
theorem C17_filter_exists (d : Definition) (h : d.valid = true) : ∃ f, toFilter d = some f := by
  obtain ⟨hv, hnd⟩ := d.valid_iff.1 h
  obtain ⟨ts, hts⟩ := toFilterAux_exists d.preds hv [] hnd (fun _ _ => rfl)
  exact ⟨_, by rw [toFilter, hts]⟩

/-- **The filter never hides a match.**  Every log that matches a definition also passes the node-side filter
    derived from it, whenever there is one (`C17_filter_exists`: for valid definitions there is). -/
theorem C17_filter_sound (d : Definition) (f : Filter) (hf : toFilter d = some f)
    (log : Log) (hm : matchDef d log = .ok true) : passes f log = true := by
  obtain ⟨haddr, hall⟩ := (matchDef_eq_true_iff d log).1 hm
  unfold toFilter at hf
  split at hf
  · rename_i ts hts
    cases hf
    have hadm := toFilterAux_admits d.preds log hall [] ts hts (Admits.nil _)
    simp [passes, haddr, hadm.1, hadm.passes]
  · cases hf

/-- **Decoded definitions are valid** and have a 20-byte contract address, whatever the bytes. -/
theorem C17_decode_valid (data : Bytes) (d : Definition) (h : unmarshal data = some d) :
    d.valid = true ∧ d.contract.length = 20 := by
  obtain ⟨_, _, _, _, hd, hv⟩ := (unmarshal_eq_some_iff data d).1 h
  exact ⟨hv, Definition.ofItem?_contract_length hd⟩

/-- **Matching is the conjunction of the predicates** (and of the contract address): whether a predicate matches does
    not depend on the other predicates of the definition. -/
theorem C17_match_conjunction (d : Definition) (log : Log) :
    matchDef d log = .ok true ↔
      log.address = d.contract ∧ ∀ p ∈ d.preds, matchDef { contract := d.contract, preds := [p] } log = .ok true := by
  simp only [matchDef_eq_true_iff, List.forall_mem_singleton]
  exact ⟨fun ⟨ha, h⟩ => ⟨ha, fun p hp => ⟨ha, h p hp⟩⟩, fun ⟨ha, h⟩ => ⟨ha, fun p hp => (h p hp).2⟩⟩

/-- **RLP round trip.**  Any item tree whose strings are shorter than 2^64 bytes, encoded and followed by
    arbitrary bytes, decodes to the same tree and leaves exactly those bytes; twice the encoded length is fuel
    enough (`need_le`). -/
theorem C17_rlp_roundtrip (i : Item) (hs : i.small) (fuel : Nat) (hf : need i ≤ fuel) (rest : Bytes) :
    decodeItem fuel (encodeItem i ++ rest) = some (i, rest) :=
  (decodeItem_encodeItem_fuel fuel).1 i hs hf rest

/-- **Round trip.**  Every valid definition (20-byte contract address; item tree small, see
    `C17_roundtrip_bounds`) is read back from its own encoding unchanged. -/
theorem C17_roundtrip (d : Definition) (hv : d.valid = true) (hc : d.contract.length = 20)
    (hs : d.toItem.small) : unmarshal (marshal d) = some d :=
  (unmarshal_eq_some_iff _ d).2 ⟨_, _, rfl, decodeItem_encodeItem _ hs, Definition.ofItem?_toItem d hv hc, hv⟩

/-- **Round trip under explicit bounds**: the item tree is small for byte arguments shorter than 2^64 bytes and
    integer arguments below 2^256. -/
theorem C17_roundtrip_bounds (d : Definition) (hv : d.valid = true) (hc : d.contract.length = 20)
    (hb : ∀ p ∈ d.preds, ∀ b ∈ p.pred.byteArgs, b.length < 2 ^ 64)
    (hi : ∀ p ∈ d.preds, ∀ a ∈ p.pred.intArgs, a < 2 ^ 256) : unmarshal (marshal d) = some d := by
  -- `hb` as it is: `2 ^ 64` and `256 ^ 8` are one numeral
  refine C17_roundtrip d hv hc (definition_small d hv hc hb fun p hp a ha => ?_)
  have := hi p hp a ha
  have h : (256 : Nat) ^ 32 = 2 ^ 256 := by decide
  omega

/-- **No two valid definitions share an encoding** (20-byte contract address, item tree small, as in
    `C17_roundtrip`). -/
theorem C17_marshal_injective (d d' : Definition) (hv : d.valid = true) (hc : d.contract.length = 20)
    (hs : d.toItem.small) (hv' : d'.valid = true) (hc' : d'.contract.length = 20) (hs' : d'.toItem.small)
    (h : marshal d = marshal d') : d = d' :=
  Codec.inj_of_decode_encode (P := fun d => d.valid = true ∧ d.contract.length = 20 ∧ d.toItem.small)
    (fun d hd => C17_roundtrip d hd.1 hd.2.1 hd.2.2) ⟨hv, hc, hs⟩ ⟨hv', hc', hs'⟩ h

/-! non-vacuity: a valid definition, a matching log, its filter (tests of the definitions) -/
def exT : Bytes := List.replicate 31 0 ++ [7]
def exDef : Definition :=
  { contract := List.replicate 20 1,
    preds := [ { ref := { dynamic := false, offset := 1 }, pred := { op := .bytesEq, intArgs := [], byteArgs := [exT] } },
               { ref := { dynamic := false, offset := 4 }, pred := { op := .uintGte, intArgs := [5], byteArgs := [] } } ] }
def exLog : Log := { address := List.replicate 20 1, topics := [exT, exT], data := exT }

example : exDef.valid = true ∧ matchDef exDef exLog = .ok true := by decide
example : (toFilter exDef).map (fun f => passes f exLog) = some true := by decide
example : unmarshal (marshal exDef) = some exDef := by decide
example : exDef.valid = true ∧ exDef.contract.length = 20 ∧
    (∀ p ∈ exDef.preds, ∀ b ∈ p.pred.byteArgs, b.length < 2 ^ 64) ∧
    (∀ p ∈ exDef.preds, ∀ a ∈ p.pred.intArgs, a < 2 ^ 256) := by decide
def exDyn : Definition :=
  { contract := List.replicate 20 1,
    preds := [ { ref := { dynamic := true, offset := 4 }, pred := { op := .uintEq, intArgs := [0], byteArgs := [] } } ] }
example : matchDef exDyn { address := List.replicate 20 1, topics := [], data := [] } = .ok true := by decide

end Shutter.Properties.C17
