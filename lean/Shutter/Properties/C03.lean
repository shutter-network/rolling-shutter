/-
C03 — Every honest keyper obtains the correct key under any gossip delivery order.

Setting as in C01, with an identity point `H id` per identity: keyper `i`'s share for `id` is `f(node i) • H id`, and
`verify id i s` accepts exactly that.  A keyper's tables are `Net.Node`; what arrives are accepted messages (`Net.Ev`):
key-share messages of honest keypers, keys messages carrying correct keys, and the keyper's own trigger.
The last section is about the Gnosis access node: its verdict on a keys message after any history of chain-sync
announcements.
-/
import Shutter.Properties.C01
import Shutter.Proofs.Net
import Shutter.Drive.EpochKG  -- `modOps`, the instance the rig runs, for `C03_open_finding_witness`
import Shutter.Proofs.AccessNode

open Polynomial

namespace Shutter.Properties.C03
open Shutter.EpochKG Shutter.Net Shutter.Sort Shutter.Properties.C01 List

variable {F G : Type} [Field F] [AddCommGroup G] [Module F G]

/-- what is fixed for one release: the key set and the identities everybody was triggered for (`nodup` is not used
    by any theorem: identity lists may repeat) -/
structure World (F G : Type) [Field F] [AddCommGroup G] [Module F G] where
  f : F[X]
  H : Bytes → G
  n : ℕ
  t : ℕ
  verify : Bytes → ℕ → G → Bool
  ids : List Bytes
  setup : ∀ id, Setup f (H id) n t (verify id)
  nodup : ids.Nodup

namespace World
variable (W : World F G)

def share (s : ℕ) (id : Bytes) : G := W.f.eval (node s) • W.H id

def key (id : Bytes) : G := W.f.eval 0 • W.H id

/-- the key-shares message of honest keyper `s` -/
def msg (s : ℕ) : ShareMsg G := { sender := s, shares := W.ids.map (fun id => (id, W.share s id)) }

/-- an accepted event: an honest keyper's shares, correct keys (for any identities), or the own trigger -/
def Honest : Ev G → Prop
  | .shares m => ∃ s, s < W.n ∧ m = W.msg s
  | .keys ks => ∀ k ∈ ks, k.2 = W.key k.1
  | .own m => ∃ s, s < W.n ∧ m = W.msg s

/-- the keypers whose shares an event carries -/
def senderOf : Ev G → Finset ℕ
  | .shares m => {m.sender}
  | .keys _ => ∅
  | .own m => {m.sender}

def seen (evs : List (Ev G)) : Finset ℕ := evs.foldl (fun acc e => acc ∪ senderOf e) ∅

/-- invariant of the share table after the keypers in `sn` were seen (`keyed` and the conjuncts `r.id ∈ W.ids`,
    `r.sender ∈ sn` of `valid` are maintained and never read) -/
structure RowsInv (rows : List (Row G)) (sn : Finset ℕ) : Prop where
  valid : ∀ r ∈ rows, r.id ∈ W.ids ∧ r.sender ∈ sn ∧ r.sender < W.n ∧ r.share = W.share r.sender r.id
  complete : ∀ id ∈ W.ids, ∀ s ∈ sn, ∃ r ∈ rows, r.id = id ∧ r.sender = s
  keyed : rows.Pairwise (fun a b => ¬ (a.id = b.id ∧ a.sender = b.sender))

theorem mem_msg {s : ℕ} {e : Bytes × G} : e ∈ (W.msg s).shares ↔ e.1 ∈ W.ids ∧ e.2 = W.share s e.1 := by
  obtain ⟨id, sh⟩ := e
  simp [msg, eq_comm]

theorem RowsInv.sender_lt {W : World F G} {rows : List (Row G)} {sn : Finset ℕ} (inv : W.RowsInv rows sn) (id : Bytes) :
    ∀ e ∈ rowsOf rows id, e.1 < W.n := by
  intro e he
  obtain ⟨r, hr, _, rfl⟩ := mem_rowsOf.1 he
  exact (inv.valid r hr).2.2.1

theorem aggregate_some {rows : List (Row G)} {sn : Finset ℕ} (inv : W.RowsInv rows sn) {id : Bytes} (hid : id ∈ W.ids)
    (hcard : W.t ≤ sn.card) : aggregate (lawful : Ops F G) W.verify W.n W.t rows id = some (W.key id) := by
  -- the rows of `id` are an input of C01's state machine with all of `sn` among its valid senders
  have hsn : sn ⊆ validSenders (W.verify id) (rowsOf rows id) := by
    intro s hs
    obtain ⟨r, hr, hrid, hrs⟩ := inv.complete id hid s hs
    have hv := inv.valid r hr
    rw [validSenders, mem_toFinset, mem_map]
    refine ⟨(r.sender, r.share), mem_filter.2 ⟨mem_rowsOf.2 ⟨r, hr, hrid, rfl⟩, ?_⟩, hrs⟩
    rw [(W.setup id).sound _ _ hv.2.2.1, hv.2.2.2, hrid]
    rfl
  rw [aggregate, run_key (W.setup id) _ (inv.sender_lt id), if_pos (hcard.trans (Finset.card_le_card hsn))]
  rfl

theorem insert_inv {rows : List (Row G)} {sn : Finset ℕ} (inv : W.RowsInv rows sn) {s : ℕ} (hs : s < W.n) :
    W.RowsInv (insertShares rows (W.msg s).sender (W.msg s).shares) (sn ∪ {s}) where
  valid := forall_insertShares
    (fun r hr => have h := inv.valid r hr; ⟨h.1, Finset.mem_union_left _ h.2.1, h.2.2⟩)
    (fun e he => have h := W.mem_msg.1 he
      ⟨h.1, Finset.mem_union_right _ (Finset.mem_singleton_self s), hs, h.2⟩)
  complete id hid s' hs' := by
    rw [← hasRow_iff, hasRow_insertShares]
    exact (Finset.mem_union.1 hs').imp (fun h => hasRow_iff.2 (inv.complete id hid s' h))
      (fun h => ⟨⟨(id, W.share s id), W.mem_msg.2 ⟨hid, rfl⟩, rfl⟩, (Finset.mem_singleton.1 h).symm⟩)
  keyed := pairwise_insertShares inv.keyed

structure Inv (nd : Node G) (sn : Finset ℕ) : Prop where
  rows : W.RowsInv nd.rows sn
  keys : ∀ k ∈ nd.keys, k.2 = W.key k.1

theorem step_inv {nd : Node G} {sn : Finset ℕ} (inv : W.Inv nd sn) {e : Ev G} (he : W.Honest e) :
    W.Inv (step (lawful : Ops F G) W.verify W.n W.t nd e) (sn ∪ senderOf e) := by
  cases e with
  | keys ks =>
    rw [senderOf, Finset.union_empty]
    exact ⟨inv.rows, forall_insertKeys inv.keys he⟩
  | own m =>
    obtain ⟨s, hs, rfl⟩ := he
    exact ⟨W.insert_inv inv.rows hs, inv.keys⟩
  | shares m =>
    obtain ⟨s, hs, rfl⟩ := he
    have hrows := W.insert_inv inv.rows hs
    rw [step, handleShares_fst]
    refine ⟨hrows, ?_⟩
    split
    · exact inv.keys
    · split
      · exact inv.keys
      · next ks hagg =>
        -- an aggregated key is a key of C01's state machine, run on shares of senders of the key set
        exact forall_insertKeys inv.keys fun k hk =>
          C01_correct (W.setup k.1) _ (hrows.sender_lt k.1) _ (aggregateAll_some hagg k hk)

-- `G` is bound afresh, so that the section's instances on it stay out (`omit … in` does the same and is slow to check)
theorem seen_concat {G : Type} (evs : List (Ev G)) (e : Ev G) : seen (evs ++ [e]) = seen evs ∪ senderOf e := by
  rw [seen, foldl_append]
  rfl

theorem run_inv (evs : List (Ev G)) (he : ∀ e ∈ evs, W.Honest e) :
    W.Inv (runNode (lawful : Ops F G) W.verify W.n W.t {} evs) (seen evs) := by
  induction evs using List.reverseRecOn with
  | nil => exact ⟨⟨forall_mem_nil _, fun _ _ _ hs => absurd hs (Finset.notMem_empty _), Pairwise.nil⟩, forall_mem_nil _⟩
  | append_singleton evs e ih =>
    rw [runNode, foldl_append, seen_concat]
    exact W.step_inv (ih fun x hx => he x (mem_append_left _ hx)) (he e mem_concat_self)

theorem hasKey_shares {nd : Node G} {sn : Finset ℕ} (inv : W.Inv nd sn) {s : ℕ} (hs : s < W.n)
    (hcard : W.t ≤ (sn ∪ {s}).card) {id : Bytes} (hid : id ∈ W.ids) :
    hasKey (step (lawful : Ops F G) W.verify W.n W.t nd (.shares (W.msg s))).keys id = true := by
  have hmem : (id, W.share s id) ∈ (W.msg s).shares := W.mem_msg.2 ⟨hid, rfl⟩
  have hagg := aggregateAll_eq_some (g := W.key) (l := (W.msg s).shares) fun e he =>
    W.aggregate_some (W.insert_inv inv.rows hs) (W.mem_msg.1 he).1 hcard
  rw [step, handleShares_fst]
  split
  · next hall => exact all_eq_true.1 hall _ hmem
  · rw [hagg]
    exact hasKey_insertKeys.2 (.inr (hasKey_iff.2 ⟨_, mem_map_of_mem hmem, rfl⟩))

end World

/-- **Only correct keys, whatever arrives in whatever order.**  After any sequence of accepted events —
    honest keypers' share messages in any order with any repetitions, keys messages with correct keys, the own trigger — every
    key the keyper stores is the epoch secret key of its identity. -/
theorem C03_only_correct (W : World F G) (evs : List (Ev G)) (he : ∀ e ∈ evs, W.Honest e) :
    ∀ k ∈ (runNode (lawful : Ops F G) W.verify W.n W.t {} evs).keys, k.2 = W.key k.1 :=
  (W.run_inv evs he).keys

/-- **Complete.**  In a history of accepted events, once an honest share message arrives with which shares of at
    least `t` distinct keypers (the own ones included) have been seen, the keyper stores the correct key of every
    identity of the release, whatever follows. -/
theorem C03_complete (W : World F G) (pre post : List (Ev G)) (s : ℕ) (hs : s < W.n)
    (hpre : ∀ e ∈ pre, W.Honest e) (hpost : ∀ e ∈ post, W.Honest e)
    (hcard : W.t ≤ (World.seen (pre ++ [Ev.shares (W.msg s)])).card) :
    ∀ id ∈ W.ids, (id, W.key id) ∈ (runNode (lawful : Ops F G) W.verify W.n W.t {} (pre ++ [.shares (W.msg s)] ++ post)).keys := by
  intro id hid
  rw [World.seen_concat] at hcard
  have hall : ∀ e ∈ pre ++ [.shares (W.msg s)] ++ post, W.Honest e := by
    simp only [mem_append, mem_singleton]
    rintro e ((he | rfl) | he)
    exacts [hpre e he, ⟨s, hs, rfl⟩, hpost e he]
  -- the key is there after the decisive message, it stays, and every stored key is correct
  obtain ⟨k, hk, rfl⟩ := hasKey_iff.1
    (hasKey_after pre post _ (W.hasKey_shares (W.run_inv pre hpre) hs hcard hid))
  rw [← C03_only_correct W _ hall k hk]
  exact hk

/-- **Keys messages complete the others.**  A keyper that is delivered a keys message for the release's
    identities holds a key for each of them from then on, whatever else arrives (that it is the correct one when
    everything that arrived was honest is `C03_only_correct`). -/
theorem C03_keys_delivered (W : World F G) (pre post : List (Ev G)) :
    ∀ id ∈ W.ids, hasKey (runNode (lawful : Ops F G) W.verify W.n W.t {}
      (pre ++ [.keys (W.ids.map (fun id => (id, W.key id)))] ++ post)).keys id = true := by
  intro id hid
  refine hasKey_after pre post _ ?_
  exact hasKey_insertKeys.2 (.inr (hasKey_iff.2 ⟨_, mem_map_of_mem hid, rfl⟩))

/-- **Schedule independence.**  Two keypers (or one keyper under two schedules) that were delivered accepted events
    only (`Honest`) never hold different keys for the same identity. -/
theorem C03_agree (W : World F G) (evs evs' : List (Ev G)) (he : ∀ e ∈ evs, W.Honest e) (he' : ∀ e ∈ evs', W.Honest e)
    (id : Bytes) (k k' : G)
    (hk : (id, k) ∈ (runNode (lawful : Ops F G) W.verify W.n W.t {} evs).keys)
    (hk' : (id, k') ∈ (runNode (lawful : Ops F G) W.verify W.n W.t {} evs').keys) : k = k' :=
  (C03_only_correct W evs he _ hk).trans (C03_only_correct W evs' he' _ hk').symm

/-! non-vacuity: a world exists, and in it the threshold hypothesis of `C03_complete` holds for keyper 0's own trigger
    followed by keyper 2's share message. -/
noncomputable def exWorld : World ℚ ℚ :=
  { f := exF, H := fun id => if id = [1] then 1 else 2, n := 3, t := 2,
    verify := fun id i s => decide (s = exF.eval (node i) • (if id = [1] then (1 : ℚ) else 2)),
    ids := [[1], [2]],
    setup := by
      intro id
      refine ⟨by decide, ?_, ?_, ?_⟩
      · have : exF.degree = 1 := by
          unfold exF
          rw [add_comm]
          exact Polynomial.degree_X_add_C 5
        rw [this]; norm_num
      · intro a _ b _ h
        unfold node at h
        have : a + 1 = b + 1 := by exact_mod_cast h
        omega
      · intro i s _; simp
    nodup := by decide }

example : exWorld.t ≤ (World.seen [Ev.own (exWorld.msg 0), Ev.shares (exWorld.msg 2)]).card := by
  simp [World.seen, World.senderOf, World.msg, exWorld]

/-! ### the open finding, in the model

`C03_complete` needs the event that completes the threshold to be a share message.  When it is the keyper's own
trigger nothing is aggregated (`ConstructDecryptionKeyShares` stores the shares and returns), so the keyper holds
`t` valid shares and no key until another message arrives.  Known finding `own-share-completes-threshold`; the same
history fails on the implementation. -/

/-- **The own trigger never derives a key.** -/
theorem C03_own_trigger_no_key {F G : Type} (o : Ops F G) (verify : Sort.Bytes → Nat → G → Bool) (n t : Nat)
    (nd : Node G) (m : ShareMsg G) : (Net.step o verify n t nd (.own m)).keys = nd.keys := rfl

/-- `f = 5 + X` on discrete logarithms: keyper `s` holds `f(s + 1)`, one identity -/
def openMsg (s : Nat) : ShareMsg Nat := { sender := s, shares := [([0], 5 + (s + 1))] }
def openVerify : Sort.Bytes → Nat → Nat → Bool := fun _ s sh => sh = 5 + (s + 1)

/-- n = 3, t = 2: keyper 0 receives keyper 1's shares and is then triggered itself — two valid shares stored, no
    key; in the other order the same two events give the key. -/
theorem C03_open_finding_witness :
    (runNode Drive.EpochKG.modOps openVerify 3 2 {} [.shares (openMsg 1), .own (openMsg 0)]).keys = [] ∧
    (runNode Drive.EpochKG.modOps openVerify 3 2 {} [.shares (openMsg 1), .own (openMsg 0)]).rows.length = 2 ∧
    (runNode Drive.EpochKG.modOps openVerify 3 2 {} [.own (openMsg 0), .shares (openMsg 1)]).keys.length = 1 := by
  decide

/-! ### the access node

The property's statement ends "… a keys message that every other keyper, and for Gnosis the access node, accepts."
The access node validates against an in-memory store filled by its
chain sync (`Model/AccessNode.lean`); the sync keeps announcing things while keys are being released: a successor
keyper set long before its activation block, its eon key once generated, older sets on an initial sync. -/

section AccessNode
open Shutter.AccessNode

/-- **Any chain-sync history.**  After any sequence of key and keyper-set announcements, the verdict on a keys
    message is the verdict under the eon key and the keyper set *last announced for the message's own eon* —
    nothing announced for another eon, before or after, has any part in it. -/
theorem C03_accessnode_sync_history (inst max : Nat) (s : Store) (evs : List AccessNode.Ev) (m : Msg) :
    validate inst max (s.run evs) m =
      validateWith inst max (lastKey evs m.eon (s.keys.get m.eon)) (lastSet evs m.eon (s.sets.get m.eon)) m := by
  rw [validate_eq, get_keys_run, get_sets_run]

/-- announcements for other eons leave every verdict on this eon as it was -/
theorem C03_accessnode_other_eons (inst max : Nat) (s : Store) (evs : List AccessNode.Ev) (m : Msg)
    (h : ∀ ev ∈ evs, ev.eon ≠ m.eon) :
    validate inst max (s.run evs) m = validate inst max s m := by
  obtain ⟨hk, hs⟩ := lastKey_lastSet_of_eon_ne evs m.eon (s.keys.get m.eon) (s.sets.get m.eon) h
  rw [C03_accessnode_sync_history, hk, hs, validate_eq]

/-- **An honest keys message is accepted, whatever the sync delivers for other eons.**  With the eon key and the keyper
    set of its eon in the store, a message that passes every check of `ValidateMessage` under them (one hypothesis
    per check; the signature rule is C06's) is accepted after any further announcements for other eons. -/
theorem C03_accessnode_accepts (inst max : Nat) (s : Store) (evs : List AccessNode.Ev) (m : Msg) (k ks : Nat)
    (hk : s.keys.get m.eon = some k) (hs : s.sets.get m.eon = some ks)
    (hother : ∀ ev ∈ evs, ev.eon ≠ m.eon)
    (hinst : m.inst = inst) (heon : m.eon ≤ maxInt64) (h1 : 1 ≤ m.nkeys) (hmax : m.nkeys ≤ max)
    (hkeys : m.keysOK k = true) (hbasic : m.basic = true) (hsigs : m.sigsOK ks = true) :
    validate inst max (s.run evs) m = true := by
  rw [C03_accessnode_other_eons _ _ _ _ _ hother, validate_eq, validateWith_iff]
  exact ⟨hinst, heon, Nat.ne_of_gt h1, hmax, ⟨k, hk, hkeys⟩, hbasic, ks, hs, hsigs⟩

/-- without the eon key or without the keyper set of its eon nothing is accepted -/
theorem C03_accessnode_needs_both (inst max : Nat) (s : Store) (m : Msg) (h : validate inst max s m = true) :
    (∃ k, s.keys.get m.eon = some k ∧ m.keysOK k = true) ∧ (∃ ks, s.sets.get m.eon = some ks ∧ m.sigsOK ks = true) := by
  rw [validate_eq, validateWith_iff] at h
  exact ⟨h.2.2.2.2.1, h.2.2.2.2.2.2⟩

/-- non-vacuity: set and key of eon 3, then a successor set for eon 4 announced, then its key: a message of eon 3
    is accepted all along, one of eon 4 only once both are there -/
example :
    let m3 : Msg := { inst := 5, eon := 3, nkeys := 2, basic := true, keysOK := fun k => k == 0, sigsOK := fun s => s == 0 }
    let m4 : Msg := { inst := 5, eon := 4, nkeys := 2, basic := true, keysOK := fun k => k == 1, sigsOK := fun s => s == 1 }
    validate 5 500 (({} : Store).run [.set 3 0, .key 3 0, .set 4 1]) m3 = true ∧
    validate 5 500 (({} : Store).run [.set 3 0, .key 3 0, .set 4 1]) m4 = false ∧
    validate 5 500 (({} : Store).run [.set 3 0, .key 3 0, .set 4 1, .key 4 1]) m4 = true ∧
    validate 5 500 (({} : Store).run [.set 3 0, .key 3 0, .set 4 1, .key 4 1]) m3 = true := by
  decide

end AccessNode

end Shutter.Properties.C03
