/-
C08 — A keyper survives a crash at any instant: DKG state intact, no message lost.

Model: `Model/Crash.lean`; the key generation logic is its parameter `apply`.  Under `MemInv` the memory is a cache of
the database, so the database evolves by a function of itself alone (`dbStep`), and `crashFree` removes the operations
that `dbStep` ignores and reads a lost commit as a commit.  The outbox part is the invariant `OutboxInv`.  That the
stored state reads back (`RoundTrip`) is a hypothesis.
-/
import Shutter.Model.Crash
import Shutter.Proofs.List
import Shutter.Generated.SqlFacts

namespace Shutter.Properties.C08
open Shutter.Crash List

variable {σ ε : Type}

/-- what is stored can be read back: `DecodePureDKG (EncodePureDKG s) = s` (checked on the real codec by the rig
    on every state a run stores; gob does not have it for a `nil` entry: the `lossy` example below) -/
def RoundTrip (c : Codec σ ε) : Prop := ∀ s, c.dec (c.enc s) = s

def MemInv (c : Codec σ ε) (nd : Node σ ε) : Prop := ∀ s, nd.mem = some s → s = c.dec nd.db.enc

section
variable (c : Codec σ ε) (apply : σ → Nat → σ × Nat)

theorem commitBlock_mem (nd : Node σ ε) (h : MemInv c nd) :
    commitBlock c apply nd = commitBlock c apply { db := nd.db, mem := none, sent := [] } := by
  unfold commitBlock
  cases hm : nd.mem with
  | none => rfl
  | some s =>
    rw [Option.getD_some, h s hm]
    rfl

theorem step_memInv (hrt : RoundTrip c) (nd : Node σ ε) (h : MemInv c nd) (op : Op) :
    MemInv c (step c apply nd op) := by
  have hnone : ∀ nd' : Node σ ε, nd'.mem = none → MemInv c nd' := by
    intro _ hn s hs
    rw [hn] at hs
    cases hs
  cases op with
  | blockCommit =>
    intro s hs
    cases hs
    exact (hrt _).symm
  | blockCommitLost | blockAbort | restart => exact hnone _ rfl
  | sendOk =>
    simp only [step]
    split <;> exact h
  | sendNoDelete =>
    simp only [step]
    split <;> exact hnone _ rfl
  | sendFail => exact h

def dbStep (db : DB ε) (op : Op) : DB ε :=
  (step c apply { db := db, mem := none, sent := [] } op).db

theorem step_db (nd : Node σ ε) (h : MemInv c nd) (op : Op) : (step c apply nd op).db = dbStep c apply nd.db op := by
  cases op with
  | blockCommit | blockCommitLost => exact congrArg Prod.fst (commitBlock_mem c apply nd h)
  -- the outbox of `nd`: empty, or `id :: rest`; then `step` computes (unfolding it by `simp` and splitting the
  -- `match` is slow to check)
  | sendOk | sendNoDelete => rcases nd with ⟨⟨_, _, _ | ⟨id, rest⟩⟩⟩ <;> rfl
  | _ => rfl

theorem run_db (hrt : RoundTrip c) (nd : Node σ ε) (h : MemInv c nd) (ops : List Op) :
    (run c apply nd ops).db = ops.foldl (dbStep c apply) nd.db := by
  induction ops generalizing nd with
  | nil => rfl
  | cons op rest ih =>
    rw [foldl_cons, ← step_db c apply nd h op]
    exact ih _ (step_memInv c apply hrt nd h op)

theorem foldl_dbStep_crashFree (db : DB ε) (ops : List Op) :
    (crashFree ops).foldl (dbStep c apply) db = ops.foldl (dbStep c apply) db := by
  induction ops generalizing db with
  | nil => rfl
  | cons op rest ih =>
    cases op with
    | sendNoDelete =>
      have : dbStep c apply db .sendNoDelete = db := by
        simp only [dbStep, step]
        split <;> rfl
      rw [foldl_cons, this]
      exact ih db
    | _ => exact ih _

end

/-- **Same database as without the crashes.**  Through any sequence of block transactions, restarts and send attempts,
    however each of them ends (`Op`), the committed database — last applied block, stored key generation state, outbox
    and id counter — is that of the run in which nothing ever crashed, provided the stored state reads back (and the
    memory at the start, if any, is the stored state). -/
theorem C08_same_db (c : Codec σ ε) (hrt : RoundTrip c) (apply : σ → Nat → σ × Nat) (nd : Node σ ε) (h : MemInv c nd)
    (ops : List Op) : (run c apply nd ops).db = (run c apply nd (crashFree ops)).db := by
  rw [run_db c apply hrt nd h ops, run_db c apply hrt nd h (crashFree ops), foldl_dbStep_crashFree]

def commits : List Op → Nat
  | [] => 0
  | .blockCommit :: rest => commits rest + 1
  | .blockCommitLost :: rest => commits rest + 1
  | _ :: rest => commits rest

/-- **Every block exactly once.**  The last applied block advances by one with every committed transaction and
    never otherwise (`commitBlock` applies the events of block `cur + 1`, so the events of block `h` are applied in
    exactly one committed transaction). -/
theorem C08_exactly_once (c : Codec σ ε) (apply : σ → Nat → σ × Nat) (nd : Node σ ε) (ops : List Op) :
    (run c apply nd ops).db.cur = nd.db.cur + commits ops := by
  induction ops generalizing nd with
  | nil => rfl
  | cons op rest ih =>
    refine (ih _).trans ?_
    cases op with
    | blockCommit | blockCommitLost => exact Nat.add_right_comm _ 1 _
    -- the outbox of `nd`: empty, or `id :: rest`
    | sendOk | sendNoDelete => rcases nd with ⟨⟨_, _, _ | ⟨id, rest⟩⟩⟩ <;> rfl
    | _ => rfl

/-- the outbox is the contiguous range of ids from `lo` to the id counter; what was handed to the chain is in
    order, goes up to `lo`, and misses no id from `first` on -/
structure OutboxInv (first : Nat) (nd : Node σ ε) (lo : Nat) : Prop where
  range : nd.db.outbox = ids lo (nd.db.nextId - lo)
  le : lo ≤ nd.db.nextId
  below : ∀ x ∈ nd.sent, x ≤ lo
  sorted : nd.sent.Pairwise (· ≤ ·)
  covered : ∀ i, first ≤ i → i < lo → i ∈ nd.sent

section OutboxInv
variable {first lo : Nat} {nd : Node σ ε} (h : OutboxInv first nd lo)
include h

theorem OutboxInv.forget (m : Option σ) : OutboxInv first { nd with mem := m } lo :=
  ⟨h.range, h.le, h.below, h.sorted, h.covered⟩

/-- `ScheduleShutterMessage`, `k` times -/
theorem OutboxInv.schedule (k cur : Nat) (e : ε) (m : Option σ) :
    OutboxInv first { mem := m, sent := nd.sent, db :=
      { cur := cur, enc := e, outbox := nd.db.outbox ++ ids nd.db.nextId k, nextId := nd.db.nextId + k } } lo := by
  refine ⟨?_, Nat.le_add_right_of_le h.le, h.below, h.sorted, h.covered⟩
  obtain ⟨d, hd⟩ := Nat.exists_eq_add_of_le h.le
  show nd.db.outbox ++ ids nd.db.nextId k = ids lo (nd.db.nextId + k - lo)
  rw [h.range, hd, Nat.add_assoc, Nat.add_sub_cancel_left, Nat.add_sub_cancel_left]
  exact range'_append_1

variable {id : Nat} {rest : List Nat} (hob : nd.db.outbox = id :: rest)
include hob

theorem OutboxInv.head : id = lo ∧ ∃ d, nd.db.nextId = lo + 1 + d ∧ rest = ids (lo + 1) d := by
  obtain ⟨d, hd⟩ := Nat.exists_eq_add_of_le h.le
  have hr := h.range
  rw [hob, hd, Nat.add_sub_cancel_left] at hr
  cases d with
  | zero => cases hr
  | succ d =>
    injection hr with hid hrest
    exact ⟨hid, d, by rw [hd, Nat.add_right_comm, Nat.add_assoc], hrest⟩

theorem OutboxInv.broadcast : OutboxInv first { nd with sent := nd.sent ++ [id] } lo := by
  obtain ⟨rfl, -⟩ := h.head hob
  refine ⟨h.range, h.le, ?_, ?_, fun i hi1 hi2 => mem_append_left _ (h.covered i hi1 hi2)⟩
  · intro x hx
    rcases mem_append.1 hx with hx | hx
    · exact h.below x hx
    · exact Nat.le_of_eq (mem_singleton.1 hx)
  · exact pairwise_concat h.sorted h.below

/-- `DeleteShutterMessage`, after the message was handed to the chain -/
theorem OutboxInv.delete (hid : id ∈ nd.sent) :
    OutboxInv first { nd with db := { nd.db with outbox := rest } } (lo + 1) := by
  obtain ⟨rfl, d, hd, hrest⟩ := h.head hob
  refine ⟨?_, hd ▸ Nat.le_add_right _ d, fun x hx => Nat.le_succ_of_le (h.below x hx), h.sorted, ?_⟩
  · show rest = ids (id + 1) (nd.db.nextId - (id + 1))
    rw [hd, Nat.add_sub_cancel_left, hrest]
  intro i hi1 hi2
  rcases Nat.lt_succ_iff_lt_or_eq.1 hi2 with hlt | rfl
  · exact h.covered i hi1 hlt
  · exact hid

end OutboxInv

theorem step_outboxInv (c : Codec σ ε) (apply : σ → Nat → σ × Nat) {first : Nat} {nd : Node σ ε} {lo : Nat}
    (h : OutboxInv first nd lo) (op : Op) : ∃ lo', OutboxInv first (step c apply nd op) lo' := by
  cases op with
  | blockCommit | blockCommitLost => exact ⟨lo, h.schedule _ _ _ _⟩
  | blockAbort | restart => exact ⟨lo, h.forget none⟩
  | sendFail => exact ⟨lo, h⟩
  | sendOk =>
    -- `SendShutterMessages` broadcasts, then deletes the row; a crash in between is `sendNoDelete`
    -- the outbox of `nd`: empty, or `id :: rest` (then `hob` of the `OutboxInv` lemmas is `rfl`)
    rcases nd with ⟨⟨_, _, _ | ⟨id, rest⟩⟩⟩
    · exact ⟨lo, h⟩
    · exact ⟨lo + 1, (h.broadcast (id := id) rfl).delete rfl mem_concat_self⟩
  | sendNoDelete =>
    rcases nd with ⟨⟨_, _, _ | ⟨id, rest⟩⟩⟩
    · exact ⟨lo, h.forget none⟩
    · exact ⟨lo, (h.broadcast (id := id) rfl).forget none⟩

/-- **No message lost, none out of order.**  From a state in which this holds (`OutboxInv`), through any sequence of
    crashes and retries: the messages handed to
    the chain are in the order in which they were queued (a message may be repeated — the row survived a crash
    after its broadcast — but never overtaken), and every message queued before the oldest one still in the
    outbox has been handed over. -/
theorem C08_outbox (c : Codec σ ε) (apply : σ → Nat → σ × Nat) (first : Nat) (nd : Node σ ε) (lo : Nat)
    (h : OutboxInv first nd lo) (ops : List Op) : ∃ lo', OutboxInv first (run c apply nd ops) lo' :=
  foldlRecOn (motive := fun nd => ∃ lo', OutboxInv first nd lo') ops _ ⟨lo, h⟩
    fun _ ⟨_, h⟩ op _ => step_outboxInv c apply h op

/-- **The same messages are scheduled.**  Crashes neither add nor remove scheduled messages: the id counter and
    the outbox are those of the crash-free run (in particular a polynomial commitment computed in a transaction
    that did not commit is never queued, and the committed one is queued once). -/
theorem C08_scheduled_once (c : Codec σ ε) (hrt : RoundTrip c) (apply : σ → Nat → σ × Nat) (nd : Node σ ε) (h : MemInv c nd)
    (ops : List Op) :
    (run c apply nd ops).db.nextId = (run c apply nd (crashFree ops)).db.nextId ∧
      (run c apply nd ops).db.outbox = (run c apply nd (crashFree ops)).db.outbox := by
  rw [C08_same_db c hrt apply nd h ops]
  exact ⟨rfl, rfl⟩

/-- the SQL that reads the position and that reads / deletes the oldest outbox row, as extracted from the source on
    this run -/
theorem C08_sql_pinned :
    Shutter.Generated.SqlFacts.keyper_GetNextShutterMessage =
      "SELECT id, description, msg from tendermint_outgoing_messages ORDER BY id LIMIT 1" ∧
    Shutter.Generated.SqlFacts.keyper_DeleteShutterMessage =
      "DELETE FROM tendermint_outgoing_messages WHERE id=$1" ∧
    Shutter.Generated.SqlFacts.keyper_TMGetSyncMeta =
      "SELECT current_block, last_committed_height, sync_timestamp FROM tendermint_sync_meta ORDER BY current_block DESC, last_committed_height DESC LIMIT 1" :=
  ⟨rfl, rfl, rfl⟩

/-- a codec that forgets: `none` ("nothing received yet") is stored as `some 0` -/
def lossy : Codec (Option Nat) Nat := { enc := fun s => s.getD 0, dec := fun e => some e }
/-- a block is handled differently depending on whether something had been received -/
def exApply : Option Nat → Nat → Option Nat × Nat := fun s _ => match s with
  | none => (some 1, 1)
  | some _ => (s, 0)
def exNode : Node (Option Nat) Nat := { db := { cur := 0, enc := 0, outbox := [], nextId := 1 }, mem := some none, sent := [] }

/-- with the lossy codec a restart changes what gets scheduled: without it one message, with it none -/
example : (run lossy exApply exNode [.blockCommit]).db.nextId = 2 ∧
    (run lossy exApply exNode [.restart, .blockCommit]).db.nextId = 1 := by decide

def faithful : Codec (Option Nat) (Option Nat) := { enc := id, dec := id }
example : RoundTrip faithful := fun _ => rfl
/-- a row that survived its broadcast is handed over again -/
example : (run faithful exApply { exNode with db := { exNode.db with enc := none } } [.restart, .blockCommitLost, .blockAbort, .sendNoDelete, .sendOk]).sent = [1, 1] := by decide

end Shutter.Properties.C08
