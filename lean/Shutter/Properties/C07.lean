/-
C07 — Honest keypers agree on the eon key despite Byzantine participants.

The decision layer is `Model/Dkg.lean`.  Here commitments are interpreted: dealer `j`'s commitment binds it to a
polynomial `f j` (Feldman commitment: `VerifyPolyEval i v c` holds iff `v = f(x_i)`; the group arithmetic behind
it is outside the model, as in C01).  The eon public key is `F(0)` in the exponent and keyper `k`'s public key
share `F(x_k)` in the exponent, where `F` is the sum of the participants' polynomials.
-/
import Shutter.Proofs.Dkg
import Shutter.Proofs.EpochKG

open Polynomial

namespace Shutter.Properties.C07
open Shutter.Dkg Shutter.EpochKG List

variable {F : Type} [Field F]

/-- the two views agree on what is on the chain -/
def SamePublic (v v' : View) : Prop :=
  v.n = v'.n ∧ v.committed = v'.committed ∧ v.accusations = v'.accusations ∧ v.apologies = v'.apologies

/-- the key polynomial, `F` of the head comment -/
noncomputable def keyPoly (f : ℕ → F[X]) (ps : List ℕ) : F[X] := (ps.map f).sum

/-- `ComputeEonSecretKeyShare`: the sum of the values used for the participants -/
def secretShare (used : ℕ → F) (ps : List ℕ) : F := (ps.map used).sum

/-- **Who takes part is decided by the chain.**  Two keypers that have seen the same commitments, accusations
    and apologies count the same dealers in, whatever each of them received in private. -/
theorem C07_public (v v' : View) (h : SamePublic v v') : participants v = participants v' := by
  obtain ⟨h1, h2, h3, h4⟩ := h
  unfold participants isCorrupt
  rw [h1, h2, h3, h4]

/-- **Agreement.**  All keypers that report success after seeing the same chain hold the same key polynomial:
    the same eon public key and the same vector of public key shares. -/
theorem C07_agree (v v' : View) (h : SamePublic v v') (ps ps' : List ℕ)
    (hok : result v = .ok ps) (hok' : result v' = .ok ps') (f : ℕ → F[X]) :
    ps = ps' ∧ keyPoly f ps = keyPoly f ps' := by
  have : ps = ps' := by rw [(result_eq_ok_iff.1 hok).1, (result_eq_ok_iff.1 hok').1, C07_public v v' h]
  exact ⟨this, by rw [this]⟩

theorem keyPoly_eval (f : ℕ → F[X]) (ps : List ℕ) (x : F) :
    (keyPoly f ps).eval x = (ps.map fun d => (f d).eval x).sum := by
  rw [keyPoly, eval_listSum, map_map]
  rfl

/-- **Each secret share matches its public share.**  On success, with every value a keyper uses for a
    participant being what that participant's commitment fixes for it (that is what the stored verification
    bit says), its secret key share is the key polynomial at its own point. -/
theorem C07_share_matches (v : View) (ps : List ℕ) (hok : result v = .ok ps) (f : ℕ → F[X]) (used : ℕ → F)
    (hsound : ∀ d, v.evalOK.getD d false = true → used d = (f d).eval (node v.me)) :
    secretShare used ps = (keyPoly f ps).eval (node v.me) := by
  obtain ⟨rfl, hall, _⟩ := result_eq_ok_iff.1 hok
  rw [keyPoly_eval, secretShare]
  exact congrArg List.sum (map_congr_left fun d hd => hsound d (hall d hd))

/-- **Degree below t.**  If every participant's polynomial has degree < t, so has the key polynomial: that is why
    any t epoch shares determine the key (`C07_decrypts`). -/
theorem C07_degree (f : ℕ → F[X]) (ps : List ℕ) (t : ℕ) (h : ∀ d ∈ ps, (f d).degree < t) :
    (keyPoly f ps).degree < t :=
  -- the polynomials of degree below `t` are a submodule, so closed under sums
  mem_degreeLT.1 (list_sum_mem fun p hp => by
    obtain ⟨d, hd, rfl⟩ := mem_map.1 hp
    exact mem_degreeLT.2 (h d hd))

/-- **Any t shares decrypt.**  The epoch key interpolated (as `ComputeEpochSecretKey` does) from the epoch
    shares of any `t` keypers with pairwise distinct evaluation points is `F(0) • H`, the key for what was encrypted
    to the eon public key, when every participant's polynomial has degree below `t` (`C07_degree`).  The hypothesis
    `ht` is not used. -/
theorem C07_decrypts {G : Type} [AddCommGroup G] [Module F G] (f : ℕ → F[X]) (ps : List ℕ) (t : ℕ) (ht : 0 < t)
    (hdeg : ∀ d ∈ ps, (f d).degree < t) (H : G) (shares : List (ℕ × G))
    (hnd : (shares.map (·.1)).Nodup) (hinj : Set.InjOn (node : ℕ → F) ↑(shares.map (·.1)).toFinset)
    (hlen : shares.length = t) (hval : ∀ e ∈ shares, e.2 = (keyPoly f ps).eval (node e.1) • H) :
    combine (lawful : Ops F G) shares = (keyPoly f ps).eval 0 • H :=
  combine_eq (keyPoly f ps) H shares hnd hinj (by rw [hlen]; exact C07_degree f ps t hdeg) hval

/-- **Everybody honest.**  If `t ≤ n`, every dealer's commitment is stored, there are no accusations and no
    apologies, and every value received verifies, the keyper succeeds with all `n` dealers taking part. -/
theorem C07_all_honest (v : View) (hn : v.t ≤ v.n) (hc : v.committed = List.replicate v.n true)
    (ha : v.accusations = []) (hp : v.apologies = []) (he : v.evalOK = List.replicate v.n true) :
    result v = .ok (List.range v.n) := by
  have hget : ∀ d ∈ List.range v.n, (List.replicate v.n true).getD d false = true := fun d hd => by
    simp [List.getD_eq_getElem?_getD, mem_range.1 hd]
  have hpart : participants v = List.range v.n := by
    refine filter_eq_self.2 fun d hd => ?_
    rw [Bool.not_eq_true', isCorrupt_eq_false_iff, hc, ha, hp]
    exact ⟨hget d hd, nofun, nofun⟩
  rw [result_eq_ok_iff, hpart, he, length_range]
  exact ⟨rfl, hget, hn⟩

/-- **With t non-corrupt dealers never "too few".**  If at least `t` dealers are not corrupt, the outcome is never
    "too few participants" (that it is not an abort either is `C07_no_abort`). -/
theorem C07_tolerates (v : View) (h : v.t ≤ (participants v).length) : ∀ k, result v ≠ .tooFew k := by
  intro k hk
  obtain ⟨rfl, hlt⟩ := result_tooFew hk
  exact Nat.not_lt.2 h hlt

/-- **An accusation on the chain protects the accuser.**  If every dealer whose value for this keyper is
    missing or wrong has been accused by it on the chain, and a verifying apology addressed to the keyper is the value
    it then uses (`hapo`), the keyper does not abort: the dealer either apologised so or is counted out by everybody. -/
theorem C07_no_abort (v : View)
    (hacc : ∀ d, d < v.n → v.evalOK.getD d false = false → (v.me, d) ∈ v.accusations)
    (hapo : ∀ d ok, ((v.me, d), ok) ∈ v.apologies → ok = true → v.evalOK.getD d false = true) :
    ∀ d, result v ≠ .abort d := by
  intro d habort
  -- an abort names a dealer that is counted in though its value for this keyper is bad
  obtain ⟨hd, hbad⟩ := result_abort habort
  obtain ⟨hdn, hnc⟩ := mem_participants.1 hd
  obtain ⟨_, hverifies, hanswered⟩ := isCorrupt_eq_false_iff.1 hnc
  -- the accusation (me, d) is answered, and the answer verifies: then the value used is good
  obtain ⟨a, ha, hkey⟩ := hanswered _ (hacc d hdn hbad) rfl
  have hgood := hapo d a.2 (by rw [← hkey]; exact ha) (hverifies a ha (by rw [hkey]))
  rw [hbad] at hgood
  cases hgood

/-! non-vacuity: an unanswered accusation counts dealer 2 out; an apology that verifies keeps it in; a bad value from
    a dealer nobody accused aborts; with one committed dealer there are too few. -/
def exView (committed : List Bool) (accs : List (ℕ × ℕ)) (apos : List ((ℕ × ℕ) × Bool)) (evalOK : List Bool) : View :=
  { n := 3, t := 2, me := 0, committed := committed, accusations := accs, apologies := apos, evalOK := evalOK }

example : result (exView [true, true, true] [(1, 2)] [] [true, true, true]) = .ok [0, 1] := by decide
example : result (exView [true, true, true] [(0, 2)] [((0, 2), true)] [true, true, true]) = .ok [0, 1, 2] := by decide
example : result (exView [true, true, true] [] [] [true, false, true]) = .abort 1 := by decide
example : result (exView [true, false, false] [] [] [true, false, false]) = .tooFew 1 := by decide

end Shutter.Properties.C07
