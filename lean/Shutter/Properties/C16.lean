/-
C16 — Event trigger fires iff a matching log occurs in time, whatever the batching.
`outcome st blocks k` is the closed form of what a range records for key `k` (`stepRange_outcome`); outcomes fuse
(`outcome_append`), so any partition into limited ranges records what block-by-block does (`C16_batching`).  The
ranges are assumed to be as `limitRange` leaves them (`GoodRange`).
-/
import Shutter.Proofs.Trigger
import Shutter.Proofs.List
import Shutter.Generated.SqlFacts

namespace Shutter.Properties.C16
open Shutter.Trigger List

/-- what one range over `blocks` records for `key` (`stepRange_outcome`): only registrations stored before the range
    count -/
def outcome (st : St) (blocks : List Blk) (key : Nat) : Option Fired :=
  match firedOf st key with
  | some f => some f
  | none =>
    match st.regs.find? (fun r => r.key = key) with
    | none => none
    | some r => (candidates r blocks).head?

/-- primary key (eon, identity) of the registrations -/
def Keyed (regs : List Reg) : Prop := regs.Pairwise (fun a b => a.key ≠ b.key)

def From (start : Nat) (blocks : List Blk) : Prop := ∀ b ∈ blocks, start ≤ b.number

/-- `Option.or` and `bind` for the two `match`es, so that the algebra of `Option` applies -/
theorem outcome_eq (st : St) (blocks : List Blk) (k : Nat) :
    outcome st blocks k =
      (firedOf st k).or ((st.regs.find? (fun r => r.key = k)).bind fun r => (candidates r blocks).head?) := by
  unfold outcome
  cases firedOf st k with
  | some f => rfl
  | none => cases st.regs.find? (fun r => r.key = k) <;> rfl

theorem stepRange_outcome (st : St) (start : Nat) (blocks : List Blk) (hfrom : From start blocks) (hk : Keyed st.regs)
    (k : Nat) : firedOf (stepRange st start blocks) k = outcome st blocks k := by
  rw [outcome_eq, firedOf, firedOf, stepRange, find?_foldl_insertFired, find?_flatMap]
  cases hf : st.fired.find? (fun x => x.key = k) with
  | some f => rfl
  | none =>
    simp only [Option.none_or, find?_candidates]
    -- a registration of `k` that is not active has expired before the range (`k` has not fired): no candidates
    rw [findSome?_filter_of_none, Shutter.Keyed.findSome?_eq_find?_bind hk k _ (fun r _ h => if_neg h)]
    · exact Option.bind_congr fun r hr => if_pos (by simpa using find?_some hr)
    · refine fun r _ hact => ite_eq_right_iff.2 fun hr => ?_
      rw [hr, isFired_eq, hf] at hact
      have hexp : r.expiry < start := by simpa using hact
      exact congrArg head? (candidates_expired r start blocks hfrom hexp)

/-- the order of `fired` is not compared -/
def Same (a b : St) : Prop := a.regs = b.regs ∧ ∀ k, firedOf a k = firedOf b k

theorem from_singleton (b : Blk) : From b.number [b] := fun x hx => by
  rw [mem_singleton.1 hx]
  exact Nat.le_refl _

/-- fusion; `st'` is how a state looks after `a` when `a` registers nothing -/
theorem outcome_append (st st' : St) (a b : List Blk) (k : Nat) (hregs : st'.regs = st.regs)
    (hf : firedOf st' k = outcome st a k) : outcome st' b k = outcome st (a ++ b) k := by
  rw [outcome_eq, outcome_eq, hf, outcome_eq, hregs, Option.or_assoc]
  cases st.regs.find? (fun r => r.key = k) <;> simp [candidates_append]

theorem outcome_blockwise (st : St) (bs rest : List Blk) (hno : ∀ b ∈ bs, regsOf b.items = []) (hk : Keyed st.regs) :
    (blockwise st bs).regs = st.regs ∧ ∀ k, outcome (blockwise st bs) rest k = outcome st (bs ++ rest) k := by
  induction bs generalizing st with
  | nil => exact ⟨rfl, fun _ => rfl⟩
  | cons b bs ih =>
    have hregs : (stepBlock st b).regs = st.regs := by simp [stepBlock, stepRange, hno b mem_cons_self]
    obtain ⟨ih1, ih2⟩ := ih (stepBlock st b) (fun x hx => hno x (mem_cons_of_mem _ hx)) (hregs ▸ hk)
    exact ⟨ih1.trans hregs, fun k => (ih2 k).trans
      (outcome_append st _ [b] (bs ++ rest) k hregs (stepRange_outcome st b.number [b] (from_singleton b) hk k))⟩

/-- **One limited range = its blocks one by one**, from two states that record the same rather than from one: in a
    sequence of ranges they are two after the first. -/
theorem range_eq_blockwise {a b : St} (hab : Same a b) (r : List Blk) (start : Nat) (hne : r ≠ []) (hfrom : From start r)
    (hlim : Limited r) (hk : Keyed a.regs) : Same (stepRange a start r) (blockwise b r) := by
  obtain ⟨bs, last, rfl⟩ : ∃ bs last, r = bs ++ [last] := ⟨_, _, (dropLast_concat_getLast hne).symm⟩
  rw [Limited, dropLast_concat] at hlim
  have hkb : Keyed b.regs := hab.1 ▸ hk
  obtain ⟨hr, hf⟩ := outcome_blockwise b bs [last] hlim hkb
  have hbw : blockwise b (bs ++ [last]) = stepBlock (blockwise b bs) last := by simp [blockwise, foldl_append]
  rw [hbw, stepBlock]
  refine ⟨?_, fun k => ?_⟩
  · simp [stepRange, hr, hab.1, flatMap_append, flatMap_eq_nil_iff.2 hlim]
  · rw [stepRange_outcome a start _ hfrom hk, stepRange_outcome _ last.number [last] (from_singleton last) (hr ▸ hkb), hf,
      outcome, outcome, hab.1, hab.2]

/-- a range as `limitRange` leaves it (`nonempty` is not needed by `C16_batching`: `batched` skips an empty range) -/
structure GoodRange (r : List Blk) : Prop where
  nonempty : r ≠ []
  from_start : ∀ b0 ∈ r.head?, From b0.number r
  limited : Limited r

theorem batched_same_blockwise (ranges : List (List Blk))
    (hg : ∀ r ∈ ranges, (∀ b0 ∈ r.head?, From b0.number r) ∧ Limited r) (a b : St) (hab : Same a b)
    (hka : Keyed a.regs) : Same (batched a ranges) (blockwise b ranges.flatten) := by
  induction ranges generalizing a b with
  | nil => exact hab
  | cons r rest ih =>
    have ih := ih (fun x hx => hg x (mem_cons_of_mem _ hx))
    have hflat : blockwise b (r :: rest).flatten = blockwise (blockwise b r) rest.flatten := by
      simp [blockwise, foldl_append]
    rw [hflat]
    cases r with
    | nil => exact ih a b hab hka
    | cons x t =>
      obtain ⟨hfrom, hlim⟩ := hg (x :: t) mem_cons_self
      exact ih _ _ (range_eq_blockwise hab (x :: t) x.number (cons_ne_nil _ _) (hfrom x rfl) hlim hka)
        (stepRange_keyed a x.number _ hka)

/-- **Whatever the batching.**  Every partition of the processed blocks into limited ranges (any sizes, any number
    of ranges) records the same registrations and, for every trigger, the same fired row as processing every block
    on its own: the outcome depends only on the chain. -/
theorem C16_batching (st : St) (ranges : List (List Blk)) (hk : Keyed st.regs) (hg : ∀ r ∈ ranges, GoodRange r) :
    Same (batched st ranges) (blockwise st ranges.flatten) :=
  batched_same_blockwise ranges (fun r hr => ⟨(hg r hr).from_start, (hg r hr).limited⟩) st st ⟨rfl, fun _ => rfl⟩ hk

/-- **At most once, and only in time.**  A recorded row is never replaced, and a new row is a matching log in a
    block not after the expiry, of a registration stored before the range. -/
theorem C16_once_and_in_time (st : St) (start : Nat) (blocks : List Blk) (hfrom : From start blocks) (hk : Keyed st.regs)
    (k : Nat) :
    (∀ f, firedOf st k = some f → firedOf (stepRange st start blocks) k = some f) ∧
    (firedOf st k = none → ∀ f, firedOf (stepRange st start blocks) k = some f →
      ∃ r ∈ st.regs, r.key = k ∧ f ∈ candidates r blocks ∧ f.block ≤ r.expiry) := by
  rw [stepRange_outcome st start blocks hfrom hk k, outcome_eq]
  constructor
  · intro f hf
    rw [hf]
    rfl
  · intro hnone f hf
    rw [hnone, Option.none_or] at hf
    obtain ⟨r, hr, hhead⟩ := Option.bind_eq_some_iff.1 hf
    have hmem := mem_of_head? hhead
    obtain ⟨b, _, hle, i, _, rfl⟩ := mem_candidates.1 hmem
    exact ⟨r, mem_of_find?_eq_some hr, by simpa using find?_some hr, hmem, hle⟩

/-- the SQL behind the active-trigger query and the fired-row insert, as extracted from the source on this run -/
theorem C16_sql_pinned :
    Shutter.Generated.SqlFacts.service_GetActiveEventTriggerRegisteredEvents =
      "SELECT block_number, block_hash, tx_index, log_index, eon, identity_prefix, sender, definition, expiration_block_number, decrypted, identity FROM event_trigger_registered_event e WHERE e.expiration_block_number >= $1 -- not expired at given block AND e.decrypted = false -- not decrypted yet AND NOT EXISTS ( -- not fired yet SELECT 1 FROM fired_triggers t WHERE t.eon = e.eon AND t.identity = e.identity )" ∧
    Shutter.Generated.SqlFacts.service_InsertFiredTrigger =
      "INSERT INTO fired_triggers (eon, identity, identity_prefix, sender, block_number, block_hash, tx_index, log_index) VALUES ($1, $2, $3, $4, $5, $6, $7, $8) ON CONFLICT (eon, identity) DO NOTHING" :=
  ⟨rfl, rfl⟩

def exBlocks : List Blk :=
  [ { number := 3, items := [.reg 0 6 0] }, { number := 4, items := [] }, { number := 5, items := [.log 0] } ]

/-- block by block the trigger registered in block 3 fires on the log of block 5 … -/
example : (blockwise {} exBlocks).fired = [{ key := 0, block := 5, logIndex := 0 }] := by decide
/-- … an unlimited range over the three blocks misses it (why `limitRange` exists) … -/
example : (stepRange {} 3 exBlocks).fired = [] := by decide
/-- … and the limited ranges [3], [4, 5] record it -/
example : (batched {} [[exBlocks[0]], [exBlocks[1], exBlocks[2]]]).fired = [{ key := 0, block := 5, logIndex := 0 }] := by decide
example : GoodRange [exBlocks[1], exBlocks[2]] :=
  ⟨cons_ne_nil _ _, by unfold From; decide, by unfold Limited; decide⟩

end Shutter.Properties.C16
