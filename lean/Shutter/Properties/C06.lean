/-
C06 — Released keys carry a genuine threshold of keyper signatures.

Both flavours run the same checks (`validateCore`) once there is something to check; `validateCore_iff` says what
those amount to, and every theorem below is read off it.  Unforgeability is the hypothesis `Binding`; signature
recovery and the SSZ hash are the model's parameters.
-/
import Shutter.Model.Signers
import Shutter.Proofs.Guard
import Shutter.Proofs.List

namespace Shutter.Properties.C06
open Shutter.Signers

/-- signer indices strictly increasing (adjacent comparison, as `validateSignerIndices` does it) -/
def StrictInc : List Nat → Prop
  | [] => True
  | [_] => True
  | a :: b :: rest => a < b ∧ StrictInc (b :: rest)

theorem strictInc_pairwise (l : List Nat) : StrictInc l → l.Pairwise (· < ·) :=
  (adjacent_iff_pairwise (R := (· < ·)) (fun _ _ _ => Nat.lt_trans) trivial (fun _ => trivial)
    (fun _ _ _ => Iff.rfl) l).1

theorem validIndices_iff (n : Nat) (l : List Nat) (prev : Option Nat) :
    validIndices n l prev = true ↔ (∀ i ∈ l, i < n) ∧ StrictInc (prev.toList ++ l) := by
  induction l generalizing prev with
  | nil => cases prev <;> simp [validIndices, StrictInc]
  | cons i rest ih => cases prev <;> simp [validIndices, StrictInc, ih, and_assoc, and_left_comm]

theorem mapM_eq_some_iff {α β : Type} (f : α → Option β) (l : List α) (bs : List β) :
    l.mapM f = some bs ↔ l.map f = bs.map some := by
  induction l generalizing bs with
  | nil => cases bs <;> simp
  | cons a l ih => cases bs <;> simp [Option.bind_eq_some_iff, ih]

theorem checkAll_iff {D S : Type} (recover : D → S → Option Addr) (hashable : Bool) (d : D)
    (sigs : List S) (addrs : List Addr) :
    checkAll recover hashable d sigs addrs = true ↔
      (sigs ≠ [] → hashable = true) ∧ sigs.map (recover d) <+: addrs.map some := by
  fun_induction checkAll recover hashable d sigs addrs with
  | case1 => simp  -- no signature left
  | case2 => simp  -- a signature but no address left: false on both sides
  | case3 s ss a as ih =>
    simp only [ih, Bool.and_eq_true, decide_eq_true_eq, List.map_cons, List.cons_prefix_cons]
    exact ⟨fun ⟨⟨h, hr⟩, _, hp⟩ => ⟨fun _ => h, hr, hp⟩, fun ⟨h, hr, hp⟩ => ⟨⟨h (by simp), hr⟩, fun _ => h (by simp), hp⟩⟩

/-- what both validators run on a message that is not the admitted empty one; `hashable`: every identity has the
    flavour's SSZ size, `nIdent`: how many identities there are -/
def validateCore {D S : Type} (recover : D → S → Option Addr) (hashable : Bool) (nIdent : Nat) (ks : KeyperSet)
    (d : D) (signers : List Nat) (sigs : List S) : Verdict :=
  if signers.length ≠ ks.threshold then .reject
  else if sigs.length ≠ signers.length then .reject
  else if !validIndices ks.keypers.length signers none then .reject
  else
    match signers.mapM (fun i => ks.keypers[i]?) with
    | none => .reject
    | some addrs =>
      if maxIdentities < nIdent then .reject
      else if checkAll recover hashable d sigs addrs then .accept
      else .reject

theorem validateGnosis_eq {S : Type} (recover : SlotData → S → Option Addr) (ks : KeyperSet) (d : SlotData)
    (signers : List Nat) (sigs : List S) :
    validateGnosis recover ks d signers sigs =
      validateCore recover (d.identities.all fun i => i.length = gnosisIdentSize) d.identities.length ks d
        signers sigs :=
  rfl

theorem validateService_eq {S : Type} (recover : ServiceData → S → Option Addr) (ks : KeyperSet) (d : ServiceData)
    (signers : List Nat) (sigs : List S) :
    validateService recover ks d signers sigs =
      if signers.length = 0 ∧ sigs.length = 0 then .accept
      else validateCore recover (d.identities.all fun i => i.length = serviceIdentSize) d.identities.length ks d
        signers sigs :=
  rfl

/-- signatures bind what was signed: a signature that recovers to a keyper over one message does not
    recover to the same keyper over a different one (ECDSA unforgeability, as a hypothesis) -/
def Binding {D S : Type} (recover : D → S → Option Addr) : Prop :=
  ∀ (d d' : D) (s : S) (a : Addr), recover d s = some a → d ≠ d' → recover d' s ≠ some a

section core
variable {D S : Type} {recover : D → S → Option Addr} {hashable : Bool} {nIdent : Nat} {ks : KeyperSet} {d : D}
  {signers : List Nat} {sigs : List S}

theorem validateCore_accept_iff :
    validateCore recover hashable nIdent ks d signers sigs = .accept ↔
      signers.length = ks.threshold ∧ sigs.length = signers.length ∧
      validIndices ks.keypers.length signers none = true ∧
      ∃ addrs, signers.mapM (fun i => ks.keypers[i]?) = some addrs ∧ nIdent ≤ maxIdentities ∧
        checkAll recover hashable d sigs addrs = true := by
  unfold validateCore
  cases signers.mapM (fun i => ks.keypers[i]?) <;> simp [↓ite_left_eq_iff]

theorem validateCore_iff :
    validateCore recover hashable nIdent ks d signers sigs = .accept ↔
      signers.length = ks.threshold ∧ sigs.length = signers.length ∧ StrictInc signers ∧
      (∀ i ∈ signers, i < ks.keypers.length) ∧ nIdent ≤ maxIdentities ∧ (sigs ≠ [] → hashable = true) ∧
      ∀ k (hk : k < sigs.length), ∃ hs : k < signers.length,
        recover d sigs[k] = ks.keypers[signers[k]]? ∧ (ks.keypers[signers[k]]?).isSome := by
  simp only [validateCore_accept_iff, validIndices_iff, mapM_eq_some_iff, checkAll_iff, Option.toList_none, List.nil_append]
  constructor
  · rintro ⟨h1, h2, ⟨hin, hinc⟩, addrs, hm, h4, hh, hp⟩
    refine ⟨h1, h2, hinc, hin, h4, hh, fun k hk => ?_⟩
    have hs : k < signers.length := h2 ▸ hk
    have hr := (hm ▸ hp).getElem (i := k) (by rwa [List.length_map])
    rw [List.getElem_map, List.getElem_map] at hr
    exact ⟨hs, hr, by simpa using hin _ (List.getElem_mem hs)⟩
  · rintro ⟨h1, h2, hinc, hin, h4, hh, hall⟩
    have he : sigs.map (recover d) = signers.map (fun i => ks.keypers[i]?) :=
      List.ext_getElem (by simpa using h2) fun k hk _ => by
        rw [List.getElem_map, List.getElem_map]
        exact (hall k (by rwa [List.length_map] at hk)).2.1
    -- what `mapM` returns: the keypers at the named positions
    have hm : signers.map (fun i => ks.keypers[i]?) = (signers.map (ks.keypers.getD · 0)).map some := by
      rw [List.map_map]
      exact List.map_congr_left fun i hi => by simp [hin i hi]
    exact ⟨h1, h2, ⟨hin, hinc⟩, _, hm, h4, hh, hm ▸ he ▸ List.prefix_refl _⟩

theorem validateCore_tamper {hashable' : Bool} {nIdent' : Nat} {d' : D} (hb : Binding recover)
    (hacc : validateCore recover hashable nIdent ks d signers sigs = .accept) (hne : d ≠ d')
    (hpos : 0 < ks.threshold) : validateCore recover hashable' nIdent' ks d' signers sigs = .reject := by
  cases hv : validateCore recover hashable' nIdent' ks d' signers sigs with
  | reject => rfl
  | accept =>
    obtain ⟨hl, h2, _, _, _, _, hall⟩ := validateCore_iff.1 hacc
    obtain ⟨_, _, _, _, _, _, hall'⟩ := validateCore_iff.1 hv
    -- there is a first signature, and it recovers to the first signer over both `d` and `d'`
    have hk : 0 < sigs.length := by omega
    obtain ⟨_, hr, hsome⟩ := hall 0 hk
    obtain ⟨_, hr', _⟩ := hall' 0 hk
    obtain ⟨a, ha⟩ := Option.isSome_iff_exists.1 hsome
    exact absurd (hr'.trans ha) (hb d d' _ a (hr.trans ha) hne)

end core

/-- **Gnosis: accepted iff a genuine threshold of signatures.**  The message names `threshold` signers, strictly
    increasing and inside the keyper set, with one signature each, and signature `k` recovers — over instance, eon,
    slot, transaction pointer and identity list — to the address of signer `k`; at most 1024 identities, of the fixed
    size when anything is signed. -/
theorem C06_gnosis_iff {S : Type} (recover : SlotData → S → Option Addr) (ks : KeyperSet) (d : SlotData)
    (signers : List Nat) (sigs : List S) :
    validateGnosis recover ks d signers sigs = .accept ↔
      signers.length = ks.threshold ∧ sigs.length = signers.length ∧ StrictInc signers ∧
      (∀ i ∈ signers, i < ks.keypers.length) ∧ d.identities.length ≤ maxIdentities ∧
      (sigs ≠ [] → ∀ i ∈ d.identities, i.length = gnosisIdentSize) ∧
      ∀ k (hk : k < sigs.length), ∃ hs : k < signers.length,
        recover d sigs[k] = ks.keypers[signers[k]]? ∧ (ks.keypers[signers[k]]?).isSome := by
  rw [validateGnosis_eq, validateCore_iff]
  simp only [List.all_eq_true, decide_eq_true_eq]

/-- **Tampering invalidates.**  Under `Binding` and for a positive threshold: the signatures of an accepted Gnosis
    message, attached to a message that differs in instance, eon, slot, transaction pointer or identity list, are
    rejected. -/
theorem C06_tamper {S : Type} (recover : SlotData → S → Option Addr) (hb : Binding recover)
    (ks : KeyperSet) (d d' : SlotData) (signers : List Nat) (sigs : List S)
    (hacc : validateGnosis recover ks d signers sigs = .accept) (hne : d ≠ d') (hpos : 0 < ks.threshold) :
    validateGnosis recover ks d' signers sigs = .reject :=
  validateCore_tamper hb hacc hne hpos

theorem validateService_iff {S : Type} {recover : ServiceData → S → Option Addr} {ks : KeyperSet}
    {d : ServiceData} {signers : List Nat} {sigs : List S} :
    validateService recover ks d signers sigs = .accept ↔
      (signers.length = 0 ∧ sigs.length = 0) ∨
      (signers.length = ks.threshold ∧ sigs.length = signers.length ∧ StrictInc signers ∧
        (∀ i ∈ signers, i < ks.keypers.length) ∧ d.identities.length ≤ maxIdentities ∧
        (sigs ≠ [] → ∀ i ∈ d.identities, i.length = serviceIdentSize) ∧
        ∀ k (hk : k < sigs.length), ∃ hs : k < signers.length,
          recover d sigs[k] = ks.keypers[signers[k]]? ∧ (ks.keypers[signers[k]]?).isSome) := by
  rw [validateService_eq, ite_eq_left_iff, validateCore_iff, Decidable.or_iff_not_imp_left]
  simp only [List.all_eq_true, decide_eq_true_eq]

/-- **Shutter service: a message with neither signers nor signatures is admitted**, whatever the keyper set. -/
theorem C06_service_unsigned {S : Type} (recover : ServiceData → S → Option Addr) (ks : KeyperSet)
    (d : ServiceData) : validateService recover ks d [] ([] : List S) = .accept :=
  validateService_iff.2 (.inl ⟨rfl, rfl⟩)

/-- **Shutter service: any other accepted message obeys the Gnosis rule**, over (instance, eon, identities):
    `threshold` strictly increasing signers inside the keyper set, one signature each, signature `k` recovering to
    the address of signer `k`. -/
theorem C06_service_signed {S : Type} (recover : ServiceData → S → Option Addr) (ks : KeyperSet)
    (d : ServiceData) (signers : List Nat) (sigs : List S) (hne : ¬ (signers.length = 0 ∧ sigs.length = 0))
    (hacc : validateService recover ks d signers sigs = .accept) :
    signers.length = ks.threshold ∧ sigs.length = signers.length ∧ StrictInc signers ∧
    (∀ i ∈ signers, i < ks.keypers.length) ∧
    ∀ k (hk : k < sigs.length), ∃ hs : k < signers.length, recover d sigs[k] = ks.keypers[signers[k]]? := by
  obtain ⟨h1, h2, hinc, hin, _, _, hall⟩ := (validateService_iff.1 hacc).resolve_left hne
  exact ⟨h1, h2, hinc, hin, fun k hk => (hall k hk).imp fun _ h => h.1⟩

/-- **A genuine threshold means `threshold` different keypers' positions.**  In an accepted Gnosis message no
    position of the keyper set is named twice: the `threshold` signatures are over `threshold` distinct positions
    (one keyper listed at two positions of the set can sign for both — the set's own business). -/
theorem C06_distinct_signers {S : Type} (recover : SlotData → S → Option Addr) (ks : KeyperSet) (d : SlotData)
    (signers : List Nat) (sigs : List S) (hacc : validateGnosis recover ks d signers sigs = .accept) :
    signers.Nodup ∧ signers.length = ks.threshold ∧ ks.threshold ≤ ks.keypers.length := by
  obtain ⟨hl, _, hinc, hin, _⟩ := validateCore_iff.1 hacc
  have hnd : signers.Nodup := (strictInc_pairwise signers hinc).imp Nat.ne_of_lt
  -- pigeonhole: distinct numbers below `n` are at most `n`
  have := hnd.length_le_of_subset (l₂ := List.range ks.keypers.length) fun i hi => List.mem_range.2 (hin i hi)
  exact ⟨hnd, hl, by simpa [hl] using this⟩

/-- **Tampering invalidates, shutter-service flavour.**  Under `Binding` and for a positive threshold: signatures
    accepted over one (instance, eon, identities) are rejected over any other, unless the message is the admitted
    one without signers and signatures. -/
theorem C06_service_tamper {S : Type} (recover : ServiceData → S → Option Addr) (hb : Binding recover)
    (ks : KeyperSet) (d d' : ServiceData) (signers : List Nat) (sigs : List S)
    (hne0 : ¬ (signers.length = 0 ∧ sigs.length = 0))
    (hacc : validateService recover ks d signers sigs = .accept) (hne : d ≠ d') (hpos : 0 < ks.threshold) :
    validateService recover ks d' signers sigs = .reject := by
  rw [validateService_eq, if_neg hne0] at hacc ⊢
  exact validateCore_tamper hb hacc hne hpos

/-! non-vacuity: a 2-of-3 message accepted, a message naming a threshold of signers with no signatures rejected,
    the accepted message with another slot rejected -/
def exRecover (d : SlotData) (s : Nat × SlotData) : Option Addr := if s.2 = d then some s.1 else some 0
def exData : SlotData := { instanceId := 1, eon := 2, slot := 3, txPointer := 4, identities := [] }
example : validateGnosis exRecover { keypers := [11, 12, 13], threshold := 2 } exData [0, 2] [(11, exData), (13, exData)] = .accept := by decide
example : validateGnosis exRecover { keypers := [11, 12, 13], threshold := 2 } exData [0, 2] [] = .reject := by decide
example : validateGnosis exRecover { keypers := [11, 12, 13], threshold := 2 } { exData with slot := 4 } [0, 2] [(11, exData), (13, exData)] = .reject := by decide

end Shutter.Properties.C06
