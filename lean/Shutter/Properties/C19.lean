/-
C19 — Gnosis keypers agree on each slot's identities and on the transaction pointer.

Hypotheses, where they appear: the synced queue is complete (`Contig`); `transaction_submitted_event` has its primary
key (`Keyed`).  That the slot identity comes first is proved when the chosen transactions' identities sort above it and
can fail otherwise (`C19_slot_first` and the example after it).
-/
import Shutter.Proofs.GnosisSlot
import Shutter.Generated.SqlFacts

namespace Shutter.Properties.C19
open Shutter.GnosisSlot Shutter.Sort List

/-- **Gas-bounded prefix of the queue.**  On a complete queue whose transactions carry at least the configured minimum
    gas, the transactions chosen for a slot are the queue entries from the pointer on, in queue order, while their
    cumulative gas stays within the limit, and the first one whatever its gas. -/
theorem C19_prefix (cfg : Cfg) (q : List Tx) (eon : Int) (ptr : Nat) (hc : Contig q eon) (hmin : 0 < cfg.minGas)
    (hgas : ∀ t ∈ q, t.eon = eon → cfg.minGas ≤ t.gas) :
    ∃ k, k ≤ ((queueOf q eon).drop ptr).length ∧
      selected cfg q eon ptr = ((queueOf q eon).drop ptr).take k ∧
      ((queueOf q eon).drop ptr ≠ [] → 1 ≤ k) ∧
      (1 < k → gasSum (((queueOf q eon).drop ptr).take k) ≤ cfg.gasLimit) ∧
      (k < ((queueOf q eon).drop ptr).length → cfg.gasLimit < gasSum (((queueOf q eon).drop ptr).take (k + 1))) := by
  unfold selected rowLimit
  rw [window_contig q eon ptr _ hc]
  have hg : ∀ t ∈ (queueOf q eon).drop ptr, cfg.minGas ≤ t.gas := by
    intro t ht
    have h := mem_queueOf.1 ((drop_sublist _ _).subset ht)
    exact hgas t h.1 h.2
  -- the row cap of the query cuts nothing: that many rows of at least `minGas` each exceed the limit
  rw [takeGas_take _ _ 0 0 cfg.minGas _ hg (Or.inr (Nat.succ_pos _))
    (by rw [Nat.zero_add]; exact Nat.lt_mul_of_div_lt (Nat.lt_succ_self _) hmin)]
  simpa only [Nat.zero_add] using takeGas_bound cfg.gasLimit _ 0 0

/-- Without the assumption on the minimum gas the selection is still a prefix of the complete queue from the pointer:
    the query's row cap `gasLimit / minGas + 1` may end it before the gas limit does. -/
theorem C19_prefix_capped (cfg : Cfg) (q : List Tx) (eon : Int) (ptr : Nat) (hc : Contig q eon) :
    ∃ k, selected cfg q eon ptr = ((queueOf q eon).drop ptr).take k := by
  unfold selected
  rw [window_contig q eon ptr _ hc]
  exact ⟨_, prefix_iff_eq_take.1 ((takeGas_prefix _ _ 0 0).trans (take_prefix _ _))⟩

/-- **Sorted.**  The requested list is sorted byte-wise and consists of exactly the slot identity and
    the identities of the chosen transactions. -/
theorem C19_sorted (cfg : Cfg) (q : List Tx) (eon ptr : Int) (slot : Nat) (ids : List Bytes)
    (h : identities cfg q eon ptr slot = some ids) :
    ids.Pairwise (fun a b => bytesLe a b = true) ∧ ids ~ slotId slot :: (selected cfg q eon ptr).map Tx.id := by
  rw [identities_eq_some h]
  exact ⟨sortIds_pairwise _, sortIds_perm _⟩

/-- **Slot identity first.**  The list is the slot identity followed by the sorted transaction identities, provided
    every chosen transaction's identity is byte-wise above the slot identity (a zero 32-byte prefix followed by a
    sender address not above the slot number is the only way to violate this: the example below). -/
theorem C19_slot_first (cfg : Cfg) (q : List Tx) (eon ptr : Int) (slot : Nat) (ids : List Bytes)
    (h : identities cfg q eon ptr slot = some ids)
    (habove : ∀ t ∈ selected cfg q eon ptr, bytesLe t.id (slotId slot) = false) :
    ids = slotId slot :: sortIds ((selected cfg q eon ptr).map Tx.id) := by
  rw [identities_eq_some h]
  refine sortIds_unique _ _ (Perm.cons _ (sortIds_perm _)) (pairwise_cons.2 ⟨fun b hb => ?_, sortIds_pairwise _⟩)
  obtain ⟨t, ht, rfl⟩ := mem_map.1 ((sortIds_perm _).mem_iff.1 hb)
  have := bytesLe_total (slotId slot) t.id
  rwa [habove t ht, Bool.or_false] at this

/-- the hypothesis of `C19_slot_first` cannot be dropped: a queued transaction with an all-zero prefix and
    sender address 1 sorts before the identity of slot 2 -/
example :
    identities { gasLimit := 100, minGas := 21, maxAge := 3 }
      [{ index := 0, eon := 0, pfx := List.replicate 32 0, sender := beBytes 20 1, gas := 21 }] 0 0 2 =
      some [List.replicate 32 0 ++ beBytes 20 1, slotId 2] := rfl

/-- **Row order is irrelevant.**  Two databases that hold the same rows of `transaction_submitted_event` (primary key
    assumed) in whatever physical order give the same identity list for every pointer and slot, and the same event
    count. -/
theorem C19_row_order (cfg : Cfg) (q q' : List Tx) (hp : q ~ q') (hk : Keyed q) (eon ptr : Int) (slot : Nat) :
    identities cfg q eon ptr slot = identities cfg q' eon ptr slot ∧ eventCount q eon = eventCount q' eon := by
  refine ⟨?_, eventCount_perm hp eon⟩
  unfold identities selected
  rw [window_perm hp hk]

/-- **Agreement.**  Two keypers whose queues hold the same rows (primary key assumed) in any physical order and whose
    `tx_pointer` tables agree emit the same trigger: pointer and identity list. -/
theorem C19_agree (cfg : Cfg) (s s' : State) (hp : s.queue ~ s'.queue) (hk : Keyed s.queue)
    (hptr : ∀ e, s.ptrs.get? e = s'.ptrs.get? e) (eonE eonK : Int) (slot : Nat) :
    (trigger cfg s eonE eonK slot).1 = (trigger cfg s' eonE eonK slot).1 := by
  have hptr1 : (getTxPointer cfg s eonE).1 = (getTxPointer cfg s' eonE).1 := by
    cases h : s.ptrs.get? eonE with
    | none => rw [getTxPointer_none cfg s h, getTxPointer_none cfg s' ((hptr eonE).symm.trans h)]
    | some p =>
      rw [getTxPointer_some cfg s h, getTxPointer_some cfg s' ((hptr eonE).symm.trans h),
        eventCount_perm hp eonE]
  rw [trigger_fst, trigger_fst, ← hptr1, (C19_row_order cfg s.queue s'.queue hp hk eonK _ slot).1]

/-- **Pointer after a keys message.**  After a keys message with `k` keys at pointer `p` is processed
    (received or self-produced) the stored pointer is `p + k - 1` with age zero, whatever was stored. -/
theorem C19_pointer_advance (s : State) (eon p : Int) (k : Nat) :
    (keysProcessed s eon p k).ptrs.get? eon = some { value := p + k - 1, age := some 0 } ∧
      ∀ e, e ≠ eon → (keysProcessed s eon p k).ptrs.get? e = s.ptrs.get? e := by
  unfold keysProcessed
  exact ⟨AMap.get?_insert_self _ _ _, fun e he => AMap.get?_insert_ne _ _ (Ne.symm he)⟩

/-- **Where the next request starts.**  A missing pointer starts at 0 (and is stored as such); a pointer
    whose age is within the maximum is used as stored; a pointer whose age exceeds the maximum, or is
    unknown, is replaced by the event count — which on a complete queue is the queue length. -/
theorem C19_pointer_start (cfg : Cfg) (s : State) (eon : Int) :
    (s.ptrs.get? eon = none → (getTxPointer cfg s eon).1 = 0 ∧
        (getTxPointer cfg s eon).2.ptrs.get? eon = some { value := 0, age := some 0 }) ∧
    (∀ v a, s.ptrs.get? eon = some { value := v, age := some a } → a ≤ cfg.maxAge →
        (getTxPointer cfg s eon).1 = v) ∧
    (∀ v a, s.ptrs.get? eon = some { value := v, age := some a } → cfg.maxAge < a →
        (getTxPointer cfg s eon).1 = eventCount s.queue eon) ∧
    (∀ v, s.ptrs.get? eon = some { value := v, age := none } →
        (getTxPointer cfg s eon).1 = eventCount s.queue eon) ∧
    (Contig s.queue eon → eventCount s.queue eon = ((queueOf s.queue eon).length : Int)) := by
  refine ⟨fun h => ?_, fun v a h ha => ?_, fun v a h ha => ?_, fun v h => ?_, eventCount_contig s.queue eon⟩
  · rw [getTxPointer_none cfg s h]
    exact ⟨rfl, AMap.get?_insert_self _ _ _⟩
  · rw [getTxPointer_some cfg s h]
    exact if_neg (by simpa [outdated] using ha)
  · rw [getTxPointer_some cfg s h]
    exact if_pos (by simpa [outdated] using ha)
  · rw [getTxPointer_some cfg s h]
    rfl

/-- the ops that leave a stored pointer alone apart from ageing it -/
def quiet : List Op → Prop
  | [] => True
  | .submit _ :: rest => quiet rest
  | .tick _ _ _ :: rest => quiet rest
  | _ :: _ => False

/-- how many ticks age the pointer of `eon`: a tick ages that of its keyper set `eK`, not of `eE` -/
def ageing (eon : Int) : List Op → Nat
  | [] => 0
  | .tick _ eK _ :: rest => (if eK = eon then 1 else 0) + ageing eon rest
  | _ :: rest => ageing eon rest

theorem get?_slotTick (cfg : Cfg) (s : State) (eE eK : Int) (slot : Nat) {eon v a : Int}
    (h : s.ptrs.get? eon = some { value := v, age := some a }) :
    (slotTick cfg s eE eK slot).2.ptrs.get? eon =
      some { value := v, age := some (a + ((if eK = eon then 1 else 0 : Nat) : Int)) } := by
  unfold slotTick
  rw [trigger_ptrs]
  apply get?_getTxPointer
  rw [get?_incAge, h]
  split
  · rfl
  · rw [Int.natCast_zero, Int.add_zero]

theorem get?_run_quiet (cfg : Cfg) (eon v : Int) (ops : List Op) (hq : quiet ops) (s : State) (a : Nat)
    (h : s.ptrs.get? eon = some { value := v, age := some (a : Int) }) :
    (run cfg s ops).ptrs.get? eon = some { value := v, age := some ((a + ageing eon ops : Nat) : Int) } := by
  fun_induction quiet ops generalizing s a with
  | case1 => exact h
  | case2 t rest ih => exact ih hq (submit s t) a h
  | case3 eE eK slot rest ih =>
    have := ih hq _ (a + if eK = eon then 1 else 0) (get?_slotTick cfg s eE eK slot h)
    rwa [Nat.add_assoc] at this
  | case4 => exact hq.elim

/-- **Pointer through a history.**  After a keys message with `k` keys at pointer `p`, any interleaving of queue
    submissions and slot ticks of any eon (no further keys message, no restart) leaves the stored pointer at
    `p + k - 1`; its age is the number of ticks of that keyper set since. -/
theorem C19_pointer_history (cfg : Cfg) (s : State) (eon p : Int) (k : Nat) (ops : List Op) (hq : quiet ops) :
    (run cfg (keysProcessed s eon p k) ops).ptrs.get? eon =
      some { value := p + k - 1, age := some (ageing eon ops : Nat) } := by
  have := get?_run_quiet cfg eon _ ops hq _ 0 (C19_pointer_advance s eon p k).1
  rwa [Nat.zero_add] at this

/-- **The next request after that** starts at `p + k - 1` while the ticks of that keyper set number at most `maxAge`,
    and at the event count once they exceed it. -/
theorem C19_pointer_next (cfg : Cfg) (s : State) (eon p : Int) (k : Nat) (ops : List Op) (hq : quiet ops) :
    let s' := run cfg (keysProcessed s eon p k) ops
    ((ageing eon ops : Int) ≤ cfg.maxAge → (getTxPointer cfg s' eon).1 = p + k - 1) ∧
    (cfg.maxAge < (ageing eon ops : Int) → (getTxPointer cfg s' eon).1 = eventCount s'.queue eon) := by
  intro s'
  have h := C19_pointer_history cfg s eon p k ops hq
  have hs := C19_pointer_start cfg s' eon
  exact ⟨fun ha => hs.2.1 _ _ h ha, fun ha => hs.2.2.1 _ _ h ha⟩

/-- after a restart every stored pointer has an unknown age, so the next request for an eon with a stored pointer
    starts at the event count -/
theorem C19_restart (cfg : Cfg) (s : State) (eon : Int) (p : Ptr) (h : s.ptrs.get? eon = some p) :
    (getTxPointer cfg (resetAges s) eon).1 = eventCount s.queue eon := by
  have : (resetAges s).ptrs.get? eon = some { value := p.value, age := none } := by
    unfold resetAges
    exact (AMap.get?_map_val (fun p : Ptr => { p with age := none }) s.ptrs eon).trans (by rw [h])
  exact (C19_pointer_start cfg (resetAges s) eon).2.2.2.1 _ this

/-- the SQL the model's table operations stand for, as extracted from the source on this run -/
theorem C19_sql_pinned :
    Shutter.Generated.SqlFacts.gnosis_GetTransactionSubmittedEvents =
      "SELECT index, block_number, block_hash, tx_index, log_index, eon, identity_prefix, sender, gas_limit FROM transaction_submitted_event WHERE eon = $1 AND index >= $2 AND index < $2 + $3 ORDER BY index ASC LIMIT $3" ∧
    Shutter.Generated.SqlFacts.gnosis_GetTransactionSubmittedEventCount =
      "SELECT cast(coalesce(max(index) + 1, 0) AS bigint) FROM transaction_submitted_event WHERE eon = $1" ∧
    Shutter.Generated.SqlFacts.gnosis_GetTxPointer =
      "SELECT eon, age, value FROM tx_pointer WHERE eon = $1" ∧
    Shutter.Generated.SqlFacts.gnosis_SetTxPointer =
      "INSERT INTO tx_pointer (eon, age, value) VALUES ($1, $2, $3) ON CONFLICT (eon) DO UPDATE SET age = $2, value = $3" ∧
    Shutter.Generated.SqlFacts.gnosis_IncrementTxPointerAge =
      "UPDATE tx_pointer SET age = age + 1 WHERE eon = $1 RETURNING age" ∧
    Shutter.Generated.SqlFacts.gnosis_ResetAllTxPointerAges =
      "UPDATE tx_pointer SET age = NULL" ∧
    Shutter.Generated.SqlFacts.keyper_GetEonForBlockNumber =
      "SELECT eon, height, activation_block_number, keyper_config_index FROM eons WHERE activation_block_number <= $1 ORDER BY activation_block_number DESC, height DESC LIMIT 1" ∧
    Shutter.Generated.SqlFacts.obskeyper_GetKeyperSet =
      "SELECT keyper_config_index, activation_block_number, keypers, threshold FROM keyper_set WHERE activation_block_number <= $1 ORDER BY activation_block_number DESC LIMIT 1" :=
  ⟨rfl, rfl, rfl, rfl, rfl, rfl, rfl, rfl⟩

/-! Test vectors: the hypotheses above hold of a queue with rows of eon 0 out of index order and one row of eon 1;
    with limit 100 the first two rows fit (30 + 40), the third (50) does not. -/

def exCfg : Cfg := { gasLimit := 100, minGas := 21, maxAge := 2 }
def exQueue : List Tx :=
  [ { index := 1, eon := 0, pfx := [9, 1], sender := [7], gas := 40 },
    { index := 0, eon := 0, pfx := [9, 0], sender := [7], gas := 30 },
    { index := 2, eon := 0, pfx := [8, 2], sender := [7], gas := 50 },
    { index := 0, eon := 1, pfx := [5], sender := [7], gas := 21 } ]

example : Contig exQueue 0 ∧ Keyed exQueue ∧ (∀ t ∈ exQueue, t.eon = 0 → exCfg.minGas ≤ t.gas) := by
  refine ⟨by decide, ?_, by decide⟩
  unfold Keyed; decide

example : (selected exCfg exQueue 0 0).map (·.index) = [0, 1] := by decide
example : (selected exCfg exQueue 0 2).map (·.index) = [2] := by decide
example : (selected exCfg exQueue 0 3) = [] := by decide
example : eventCount exQueue 0 = 3 := by decide
example : quiet [.tick 0 0 5, .submit { index := 3, eon := 0, pfx := [1], sender := [2], gas := 30 }, .tick 1 1 6] ∧
    ageing 0 [.tick 0 0 5, .submit { index := 3, eon := 0, pfx := [1], sender := [2], gas := 30 }, .tick 1 1 6] = 1 := by
  simp [quiet, ageing]

end Shutter.Properties.C19
