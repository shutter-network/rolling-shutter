/-
C14 — Keypers read chain events exactly as shuttermint wrote them.

`makeABCI` / `makeEvent` model `MakeABCIEvent` / `MakeEvent`.  The string codecs (decimal, hex, comma lists) are
proved to round-trip (Proofs/Events.lean); the address, key and commitment encodings are oracles, assumed to
round-trip (`Laws`).
-/
import Shutter.Proofs.Events

namespace Shutter.Properties.C14
open Shutter.Events

def IsBytes (b : Bytes) : Prop := ∀ x ∈ b, x < 256

/-- what the model assumes of the library oracles: the checksummed text of a 20-byte address is a
    40-digit hex text of that address; key and gamma encodings decode to what was encoded -/
structure Laws (o : Oracles) (validKey validGammas : Bytes → Prop) : Prop where
  hex_parse : ∀ a, a.length = 20 → IsBytes a → parseHexAddress (o.hex a) = some a
  key_rt : ∀ k, validKey k → o.decPubkey (o.encPubkey k) = some k
  gammas_rt : ∀ g, validGammas g → o.decGammas (o.encGammas g) = some g

def IsAddr (a : Bytes) : Prop := a.length = 20 ∧ IsBytes a

/-- values the application can put into an event -/
def WF (validKey validGammas : Bytes → Prop) : Ev → Prop
  | .checkIn s k => IsAddr s ∧ validKey k
  | .batchConfig a ks t i => a < 2 ^ 64 ∧ t < 2 ^ 64 ∧ i < 2 ^ 64 ∧ ∀ k ∈ ks, IsAddr k
  | .batchConfigStarted i => i < 2 ^ 64
  | .eonStarted e a i => e < 2 ^ 64 ∧ a < 2 ^ 64 ∧ i < 2 ^ 64
  | .polyCommitment s e g => IsAddr s ∧ e < 2 ^ 64 ∧ validGammas g
  | .polyEval s e rs evs => IsAddr s ∧ e < 2 ^ 64 ∧ (∀ r ∈ rs, IsAddr r) ∧ ∀ b ∈ evs, IsBytes b
  | .accusation s e as => IsAddr s ∧ e < 2 ^ 64 ∧ ∀ a ∈ as, IsAddr a
  | .apology s e as ps => IsAddr s ∧ e < 2 ^ 64 ∧ (∀ a ∈ as, IsAddr a) ∧
      ∀ p ∈ ps, IsBytes p ∧ normBig p = p

theorem decodeAddress_hex {o : Oracles} {vk vg : Bytes → Prop} (l : Laws o vk vg) {a : Bytes}
    (h : IsAddr a) : decodeAddress o.toAddrOracle (o.hex a) = some a := by
  unfold decodeAddress
  rw [l.hex_parse a h.1 h.2]
  simp

theorem decodeAddresses_encodeAddresses {o : Oracles} {vk vg : Bytes → Prop} (l : Laws o vk vg)
    {as : List Bytes} (h : ∀ a ∈ as, IsAddr a) :
    decodeAddresses (encodeAddresses o.toAddrOracle as) = some as :=
  decodeList_encodeList o.hex parseHexAddress parseHexAddress_listElem as fun a ha =>
    l.hex_parse a (h a ha).1 (h a ha).2

section
-- what selects the branch of `makeEvent` and lines its attributes up; each case below adds the field codecs
attribute [local simp] makeEvent makeABCI expectAttributes tCheckIn tBatchConfig tBatchConfigStarted tEonStarted
  tPolyCommitment tPolyEval tAccusation tApology

/-- **Round trip.**  Every event value the application can emit — all eight types, including empty
    lists, empty byte strings, zero integers and the largest `uint64` — decodes on the keyper side to
    exactly the values that were put in (given `Laws`). -/
theorem C14_roundtrip (o : Oracles) (vk vg : Bytes → Prop) (l : Laws o vk vg) (e : Ev)
    (h : WF vk vg e) : makeEvent o (makeABCI o e) = some e := by
  cases e with
  | checkIn s k =>
    obtain ⟨hs, hk⟩ := h
    simp [decodeAddress_hex l hs, l.key_rt k hk]
  | batchConfig a ks t i =>
    obtain ⟨ha, ht, hi, hks⟩ := h
    simp [decodeUint_encodeUint ha, decodeUint_encodeUint ht, decodeUint_encodeUint hi,
      decodeAddresses_encodeAddresses l hks]
  | batchConfigStarted i =>
    simp [decodeUint_encodeUint h]
  | eonStarted e a i =>
    obtain ⟨he, ha, hi⟩ := h
    simp [decodeUint_encodeUint he, decodeUint_encodeUint ha, decodeUint_encodeUint hi]
  | polyCommitment s e g =>
    obtain ⟨hs, he, hg⟩ := h
    simp [decodeAddress_hex l hs, decodeUint_encodeUint he, l.gammas_rt g hg]
  | polyEval s e rs evs =>
    obtain ⟨hs, he, hrs, hevs⟩ := h
    simp [decodeAddress_hex l hs, decodeUint_encodeUint he, decodeAddresses_encodeAddresses l hrs,
      decodeByteSeq_encodeByteSeq evs hevs]
  | accusation s e as =>
    obtain ⟨hs, he, has⟩ := h
    simp [decodeAddress_hex l hs, decodeUint_encodeUint he, decodeAddresses_encodeAddresses l has]
  | apology s e as ps =>
    obtain ⟨hs, he, has, hps⟩ := h
    simp [decodeAddress_hex l hs, decodeUint_encodeUint he, decodeAddresses_encodeAddresses l has,
      decodeByteSeq_encodeByteSeq ps (fun p hp => (hps p hp).1),
      (List.map_congr_left fun p hp => (hps p hp).2).trans (List.map_id' ps)]

end

/-- **No two events share a wire form**: nothing a keyper reads (type and attributes) can stand for two different
    values the application can emit (given `Laws`). -/
theorem C14_injective (o : Oracles) (vk vg : Bytes → Prop) (l : Laws o vk vg) (e₁ e₂ : Ev)
    (h₁ : WF vk vg e₁) (h₂ : WF vk vg e₂) (h : makeABCI o e₁ = makeABCI o e₂) : e₁ = e₂ :=
  Codec.inj_of_decode_encode (C14_roundtrip o vk vg l) h₁ h₂ h

/-- **Integers are never mis-read.**  Whatever text the integer decoder accepts denotes the number it
    returns, below 2^64; anything else is an error (`none`), e.g. the empty string, signs, spaces. -/
theorem C14_uint_strict (s : List Char) (n : Nat) (h : decodeUint s = some n) :
    n < 2 ^ 64 ∧ s ≠ [] ∧ ∃ ds, mapOpt digitVal? s = some ds ∧ ofDigitsBE ds = n := by
  revert h
  fun_cases decodeUint s with
  | case1 | case2 | case4 => exact nofun
  | case3 hne ds hm _ hlt =>
    intro h
    rw [← Option.some.inj h]
    exact ⟨hlt, fun hs => hne (by rw [hs]; rfl), ds, hm, rfl⟩

/-- **Attribute access never goes out of range**: `expectAttributes` succeeds only with as many
    values as names, so every positional access that follows is inside the list. -/
theorem C14_expect_length (attrs : List Attr) (names : List String) (vs : List (List Char))
    (h : expectAttributes attrs names = some vs) : vs.length = names.length ∧ names.length ≤ attrs.length := by
  fun_induction expectAttributes attrs names generalizing vs with
  | case1 =>
    cases h
    simp
  | case2 | case4 | case5 => cases h
  | case3 a as ns ws hr ih =>
    cases h
    have := ih ws hr
    simp only [List.length_cons]
    omega

/-- **Unknown event types are errors**: `makeEvent` answers only for the eight types.  (Attribute names are
    compared position by position by `expectAttributes` itself.) -/
theorem C14_names_checked (o : Oracles) (ev : RawEvent) (e : Ev) (h : makeEvent o ev = some e) :
    ev.type ∈ [tCheckIn, tBatchConfig, tBatchConfigStarted, tEonStarted, tPolyCommitment, tPolyEval,
      tAccusation, tApology] := by
  apply Decidable.byContradiction
  intro hn
  simp only [List.mem_cons, List.not_mem_nil, or_false, not_or] at hn
  simp [makeEvent, hn] at h

/-! non-vacuity and boundary values (these are tests of the definitions, not the theorem) -/
example : decodeUint (encodeUint 18446744073709551615) = some 18446744073709551615 := by decide
example : decodeUint "18446744073709551616".toList = none := by decide
example : decodeUint "007".toList = some 7 := by decide
example : decodeUint "+7".toList = none ∧ decodeUint "".toList = none ∧ decodeUint "1_0".toList = none := by decide
example : decodeByteSeq (encodeByteSeq [[], [0, 255]]) = some [[], [0, 255]] := by decide
example : encodeByteSeq [[]] = "0x".toList ∧ encodeByteSeq [] = [] := by decide
example : decodeByteSeq "0x,".toList = none ∧ decodeByteSeq "0x0".toList = none := by decide

end Shutter.Properties.C14
