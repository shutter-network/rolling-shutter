/-
C02 — Shutter-service keyper never triggers decryption before the release condition.
`C02_time` / `C02_event` read the release condition off what one block emits (`timeTriggers` / `eventTriggers`);
`C02_history` lifts them to every block of a history (`emitted`); the never-again theorems are invariants of `step`.
Safety only: nothing here says that a due registration is ever triggered.  `fired_triggers` rows are taken as given
(C16).
-/
import Shutter.Proofs.ServiceTrigger
import Shutter.Proofs.List
import Shutter.Generated.SqlFacts

namespace Shutter.Properties.C02
open Shutter.ServiceTrigger Shutter.Sort List

/-- the release condition of one keyper set `c`: `e` is its newest started eon, the keyper belongs to the set (the
    membership row is looked up under `int32(c)`, as the code does), the key generation of `e` succeeded -/
def Decryptable (s : State) (c : Int) (e : EonRow) : Prop :=
  e ∈ s.eons ∧ e.config = c ∧ (∀ e' ∈ s.eons, e'.config = c → e'.eon ≤ e.eon) ∧
    (∃ cfg ∈ s.configs, cfg.config = wrap32 c ∧ cfg.member = true) ∧
    (∃ d ∈ s.dkgs, d.eon = e.eon ∧ d.success = true)

/-- **Time-registered identities are never triggered early.**  Whatever the database state and the in-memory mark
    (timestamps are not assumed monotone): each identity of a time-based trigger is that of a stored registration not
    marked decrypted, whose release time is strictly before the block's timestamp and whose keyper set is decryptable
    with an activation block not after the block's number. -/
theorem C02_time (s : State) (now number : Int) :
    ∀ t ∈ (timeTriggers s now number).2, ∀ id ∈ t.ids,
      ∃ r ∈ s.regs, r.identity = id ∧ r.decrypted = false ∧ r.timestamp < now ∧
        ∃ e, Decryptable s r.eon e ∧ e.activation ≤ number ∧ t.block = e.activation := by
  intro t ht id hid
  obtain ⟨c, e, hres, hblock, _, hperm⟩ := timeTriggers_spec ht
  obtain ⟨r, hr, rfl⟩ := mem_map.1 (hperm.mem_iff.1 hid)
  simp only [mem_filter, mem_due, decide_eq_true_eq] at hr
  obtain ⟨⟨⟨⟨hmem, _, _, hdec⟩, hshould⟩, _⟩, rfl⟩ := hr
  rw [shouldTrigger, hres] at hshould
  simp only [Bool.and_eq_true, decide_eq_true_eq] at hshould
  exact ⟨r, hmem, rfl, hdec, hshould.2, e, resolve_spec hres, hshould.1, hblock⟩

/-- **Event-triggered identities need a fired, undecrypted trigger.**  Each identity in each event-based
    trigger has a row in `fired_triggers` (written only when a matching log was found in time, C16) whose
    registration exists and is not marked decrypted, for a decryptable keyper set. -/
theorem C02_event (s : State) :
    ∀ t ∈ eventTriggers s, ∀ id ∈ t.ids,
      ∃ f ∈ s.fired, f.identity = id ∧
        (∃ r ∈ s.trigRegs, r.eon = f.eon ∧ r.identity = id) ∧
        (∀ r ∈ s.trigRegs, r.eon = f.eon → r.identity = id → r.decrypted = false) ∧
        ∃ e, Decryptable s f.eon e ∧ t.block = e.activation := by
  intro t ht id hid
  obtain ⟨c, e, hres, hblock, _, hperm⟩ := eventTriggers_spec ht
  obtain ⟨f, hf, rfl⟩ := mem_map.1 (hperm.mem_iff.1 hid)
  simp only [mem_filter, mem_undecryptedFired, decide_eq_true_eq] at hf
  obtain ⟨⟨hmem, hreg, hnot⟩, rfl⟩ := hf
  exact ⟨f, hmem, rfl, hreg, hnot, e, resolve_spec hres, hblock⟩

/-- **Sorted.**  The identities inside every trigger are sorted byte-wise. -/
theorem C02_sorted (s : State) (now number : Int) :
    (∀ t ∈ (timeTriggers s now number).2, t.ids.Pairwise (fun a b => bytesLe a b = true)) ∧
    (∀ t ∈ eventTriggers s, t.ids.Pairwise (fun a b => bytesLe a b = true)) := by
  constructor
  · intro t ht
    obtain ⟨_, _, _, _, hsorted, _⟩ := timeTriggers_spec ht
    exact hsorted
  · intro t ht
    obtain ⟨_, _, _, _, hsorted, _⟩ := eventTriggers_spec ht
    exact hsorted

/-- **Distinct.**  No identity occurs twice inside a trigger, given the primary keys of the two tables (`hkey`, kept
    by every operation: `step_keyUnique`; `hfired`) and `hinj`: within a keyper set the identity, the Keccak hash of
    prefix and sender, determines the key.  `hrow` follows from `hkey`. -/
theorem C02_distinct (s : State) (now number : Int)
    (hkey : KeyUnique s)
    (hinj : ∀ a ∈ s.regs, ∀ b ∈ s.regs, a.eon = b.eon → a.identity = b.identity → a.key = b.key)
    (hrow : ∀ a ∈ s.regs, ∀ b ∈ s.regs, a.key = b.key → a = b)
    (hfired : s.fired.Nodup) :
    (∀ t ∈ (timeTriggers s now number).2, t.ids.Nodup) ∧ (∀ t ∈ eventTriggers s, t.ids.Nodup) := by
  have hregs : s.regs.Nodup := Pairwise.imp (fun hab heq => hab (congrArg Reg.key heq)) hkey
  constructor
  · intro t ht
    obtain ⟨c, _, _, _, _, hperm⟩ := timeTriggers_spec ht
    refine hperm.nodup_iff.2 (nodup_map_of_inj_on _
      (((((isort_perm _ _).nodup_iff.2 (hregs.filter _)).filter _).filter _).filter _) ?_)
    intro a ha b hb hid
    simp only [mem_filter, mem_due, decide_eq_true_eq] at ha hb
    exact hrow a ha.1.1.1.1 b hb.1.1.1.1 (hinj a ha.1.1.1.1 b hb.1.1.1.1 (ha.2.trans hb.2.symm) hid)
  · intro t ht
    obtain ⟨c, _, _, _, _, hperm⟩ := eventTriggers_spec ht
    refine hperm.nodup_iff.2 (nodup_map_of_inj_on _ ((hfired.filter _).filter _) ?_)
    intro a ha b hb hid
    simp only [mem_filter, decide_eq_true_eq] at ha hb
    cases a; cases b
    simp only [Fired.mk.injEq]
    exact ⟨ha.2.trans hb.2.symm, hid⟩

/-- **Through every history.**  From any state, after any operations (`Op`), every trigger emitted at a block
    satisfies the conclusion of `C02_time` resp. `C02_event` (without its clause that the registration exists) in the
    state in which that block was processed.  `x` is (state, timestamp, number, time-based triggers, event-based
    triggers) of one processed block. -/
theorem C02_history (s0 : State) (ops : List Op) :
    ∀ x ∈ emitted s0 ops,
      (∀ t ∈ x.2.2.2.1, ∀ id ∈ t.ids,
        ∃ r ∈ x.1.regs, r.identity = id ∧ r.decrypted = false ∧ r.timestamp < x.2.1 ∧
          ∃ e, Decryptable x.1 r.eon e ∧ e.activation ≤ x.2.2.1 ∧ t.block = e.activation) ∧
      (∀ t ∈ x.2.2.2.2, ∀ id ∈ t.ids,
        ∃ f ∈ x.1.fired, f.identity = id ∧
          (∀ r ∈ x.1.trigRegs, r.eon = f.eon → r.identity = id → r.decrypted = false) ∧
          ∃ e, Decryptable x.1 f.eon e ∧ t.block = e.activation) := by
  intro x hx
  obtain ⟨pre, now, number, ev, rfl⟩ := exists_of_mem_emitted hx
  refine ⟨C02_time _ now number, fun t ht id hid => ?_⟩
  -- event-based triggers are emitted only when `ev` is set; `C02_event`, less its clause that the registration exists
  obtain ⟨f, hf, hfid, _, hreg, he⟩ := C02_event _ t (mem_ite_nil_right.1 ht).2 id hid
  exact ⟨f, hf, hfid, hreg, he⟩

/-- **Never again (time-based).**  Once the rows of key `k` are marked decrypted they stay marked in every state a
    block is processed in, and `C02_time` sources a trigger from an unmarked row only.  `hex`: without a row of key
    `k`, `hk` is vacuous and a later registration of `k` is unmarked.  `hu` is not used. -/
theorem C02_never_again_time (s0 : State) (k : Nat) (hu : KeyUnique s0) (hk : KeyDone k s0)
    (hex : ∃ r ∈ s0.regs, r.key = k) (ops : List Op) :
    ∀ x ∈ emitted s0 ops, ∀ r ∈ x.1.regs, r.key = k → r.decrypted = true :=
  fun x hx => (emitted_inv _ (step_keyDone k) s0 ops ⟨hex, hk⟩ x hx).2

theorem trigDone_emitted (s0 : State) (eon : Int) (id : Bytes) (hd : TrigDone eon id s0) (ops : List Op) :
    ∀ x ∈ emitted s0 ops, ∀ f : Fired, f.eon = eon → f.identity = id → f ∉ undecryptedFired x.1 := by
  intro x hx f he hi hmem
  obtain ⟨r, hr, h1, h2, h3⟩ := emitted_inv (TrigDone eon id) (step_trigDone eon id) s0 ops hd x hx
  have hnot := (mem_undecryptedFired.1 hmem).2.2 r hr (h1.trans he.symm) (h2.trans hi.symm)
  rw [h3] at hnot
  cases hnot

/-- **Never again (event-based).**  Once a trigger registration (eon, identity) is marked decrypted, no fired row of
    that (eon, identity) is among the undecrypted fired rows any more, the only source of event-based triggers
    (`C02_event`).  The binder `t` does not occur in the conclusion. -/
theorem C02_never_again_event (s0 : State) (eon : Int) (id : Bytes) (hd : TrigDone eon id s0) (ops : List Op) :
    ∀ x ∈ emitted s0 ops, ∀ t ∈ eventTriggers x.1, ∀ f ∈ x.1.fired, f.eon = eon → f.identity = id →
      f ∉ (undecryptedFired x.1) :=
  fun x hx _ _ f _ => trigDone_emitted s0 eon id hd ops x hx f

/-- **Below the mark nothing is emitted.**  A block whose timestamp is not above the in-memory mark emits no
    time-based trigger and leaves the mark where it is (so non-monotone timestamps never move it back). -/
theorem C02_mark (s : State) (now number m : Int) (hm : s.mark = some m) (hle : now ≤ m) :
    timeTriggers s now number = (some m, []) := by
  unfold timeTriggers
  simp only [hm]
  rw [if_pos (by simpa using hle)]

/-- the SQL the model's table operations stand for, as extracted from the source on this run -/
theorem C02_sql_pinned :
    Shutter.Generated.SqlFacts.service_GetNotDecryptedIdentityRegisteredEvents =
      "SELECT block_number, block_hash, tx_index, log_index, eon, identity_prefix, sender, timestamp, decrypted, identity FROM identity_registered_event WHERE timestamp >= $1 AND timestamp <= $2 AND decrypted = false ORDER BY timestamp ASC" ∧
    Shutter.Generated.SqlFacts.keyper_GetLatestStartedEonByKeyperConfigIndex =
      "SELECT eon, height, activation_block_number, keyper_config_index FROM eons WHERE keyper_config_index = $1 ORDER BY eon DESC LIMIT 1" ∧
    Shutter.Generated.SqlFacts.keyper_GetDKGResultForKeyperConfigIndex =
      "SELECT eon, success, error, pure_result FROM dkg_result WHERE eon = (SELECT max(eon) FROM eons WHERE keyper_config_index = $1)" ∧
    Shutter.Generated.SqlFacts.service_GetUndecryptedFiredTriggers =
      "SELECT f.identity_prefix, f.sender, f.block_number, f.block_hash, f.tx_index, f.log_index, e.eon AS eon, e.expiration_block_number AS expiration_block_number, e.identity AS identity, e.decrypted AS decrypted FROM fired_triggers f INNER JOIN event_trigger_registered_event e ON f.eon = e.eon AND f.identity = e.identity WHERE NOT EXISTS ( -- not decrypted yet SELECT 1 FROM event_trigger_registered_event e WHERE e.eon = f.eon AND e.identity = f.identity AND e.decrypted = true )" ∧
    Shutter.Generated.SqlFacts.service_UpdateEventBasedDecryptedFlags =
      "UPDATE event_trigger_registered_event SET decrypted = TRUE WHERE (eon, identity) IN ( SELECT UNNEST($1::bigint[]), UNNEST($2::bytea[]) )" ∧
    Shutter.Generated.SqlFacts.service_UpdateTimeBasedDecryptedFlags =
      "UPDATE identity_registered_event SET decrypted = TRUE WHERE (eon, identity) IN ( SELECT UNNEST($1::bigint[]), UNNEST($2::bytea[]) )" :=
  ⟨rfl, rfl, rfl, rfl, rfl, rfl⟩

def exState : State :=
  { regs := [ { key := 1, eon := 0, identity := [5, 1], timestamp := 100, decrypted := false },
              { key := 2, eon := 0, identity := [4, 2], timestamp := 101, decrypted := false },
              { key := 3, eon := 0, identity := [3, 3], timestamp := 90, decrypted := true },
              { key := 4, eon := 1, identity := [2, 4], timestamp := 90, decrypted := false } ],
    trigRegs := [ { eon := 0, identity := [7], decrypted := false }, { eon := 0, identity := [8], decrypted := true } ],
    fired := [ { eon := 0, identity := [7] }, { eon := 0, identity := [8] } ],
    eons := [ { eon := 1, config := 0, activation := 10 }, { eon := 2, config := 1, activation := 20 } ],
    configs := [ { config := 0, member := true }, { config := 1, member := true } ],
    dkgs := [ { eon := 1, success := true }, { eon := 2, success := false } ] }

-- strictness at the boundary: release time 101 is not triggered at block time 101, it is at 102; activation 10 is not
-- reached at block 9
example : (timeTriggers exState 101 10).2 = [{ block := 10, ids := [[5, 1]] }] := by decide
example : (timeTriggers exState 102 10).2 = [{ block := 10, ids := [[4, 2], [5, 1]] }] := by decide
example : (timeTriggers exState 102 9).2 = [] := by decide
example : eventTriggers exState = [{ block := 10, ids := [[7]] }] := by decide

end Shutter.Properties.C02
