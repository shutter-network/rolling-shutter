/-
Association-list maps for the models that hold Go maps (`Model/App`, `Model/GnosisSlot`).

A Go `map[K]V` is modelled as a `List (K × V)` with at most one entry per key
(`Nodup` keys is an invariant kept as a separate theorem, not a subtype).
`insert` replaces in place or appends, `erase` filters.  Nothing in a model may
depend on the position of an entry except through an explicit listing argument.
-/
namespace Shutter

abbrev AMap (K V : Type) := List (K × V)

namespace AMap
variable {K V : Type} [DecidableEq K]

def get? (m : AMap K V) (k : K) : Option V :=
  match m with
  | [] => none
  | (k', v) :: rest => if k' = k then some v else get? rest k

def contains (m : AMap K V) (k : K) : Bool := (m.get? k).isSome

def getD (m : AMap K V) (k : K) (d : V) : V := (m.get? k).getD d

def insert (m : AMap K V) (k : K) (v : V) : AMap K V :=
  match m with
  | [] => [(k, v)]
  | (k', v') :: rest => if k' = k then (k, v) :: rest else (k', v') :: insert rest k v

def erase (m : AMap K V) (k : K) : AMap K V := m.filter (fun e => e.1 ≠ k)

def keys (m : AMap K V) : List K := m.map (·.1)

@[simp] theorem get?_nil (k : K) : get? ([] : AMap K V) k = none := rfl

theorem get?_cons (a : K) (b : V) (m : AMap K V) (k : K) :
    get? ((a, b) :: m) k = if a = k then some b else get? m k := rfl

omit [DecidableEq K] in
theorem keys_cons (x : K × V) (m : AMap K V) : keys (x :: m) = x.1 :: keys m := rfl

theorem get?_insert (m : AMap K V) (k k' : K) (v : V) :
    get? (insert m k v) k' = if k = k' then some v else get? m k' := by
  fun_induction insert m k v with
  | case1 => rfl
  | case2 b rest => rw [get?_cons, get?_cons]; split <;> rfl
  | case3 a b rest h ih =>
    rw [get?_cons, get?_cons, ih]
    by_cases h2 : a = k'
    · subst h2; simp [Ne.symm h]
    · simp [h2]

theorem get?_insert_self (m : AMap K V) (k : K) (v : V) : get? (insert m k v) k = some v := by
  rw [get?_insert, if_pos rfl]

theorem get?_insert_ne (m : AMap K V) {k k' : K} (v : V) (h : k ≠ k') :
    get? (insert m k v) k' = get? m k' := by
  rw [get?_insert, if_neg h]

theorem insert_of_not_contains {m : AMap K V} {k : K} (v : V) (h : m.contains k = false) :
    m.insert k v = m ++ [(k, v)] := by
  fun_induction insert m k v with
  | case1 => rfl
  | case2 b rest => simp [contains, get?_cons] at h
  | case3 a b rest hak ih =>
    rw [contains, get?_cons, if_neg hak] at h
    rw [ih h, List.cons_append]

theorem get?_map_val {W : Type} (f : V → W) (m : AMap K V) (k : K) :
    get? (m.map fun e => (e.1, f e.2)) k = (get? m k).map f := by
  fun_induction get? m k with
  | case1 => rfl
  | case2 v rest => rw [List.map_cons, get?_cons, if_pos rfl]; rfl
  | case3 a v rest h ih => rw [List.map_cons, get?_cons, if_neg h, ih]

theorem keys_insert (m : AMap K V) (k : K) (v : V) :
    keys (insert m k v) = if k ∈ keys m then keys m else keys m ++ [k] := by
  fun_induction insert m k v with
  | case1 => rfl
  | case2 b rest => rw [if_pos (keys_cons (k, b) rest ▸ List.mem_cons_self)]; rfl
  | case3 a b rest h ih =>
    rw [keys_cons, ih, keys_cons]
    by_cases hk : k ∈ keys rest
    · rw [if_pos hk, if_pos (List.mem_cons_of_mem _ hk)]
    · rw [if_neg hk, if_neg (fun hm => (List.mem_cons.1 hm).elim (fun e => h e.symm) hk)]
      rfl

theorem keys_insert_nodup {m : AMap K V} {k : K} (v : V) (h : (keys m).Nodup) :
    (keys (insert m k v)).Nodup := by
  rw [keys_insert]
  split
  · exact h
  · rename_i hk
    simpa [List.nodup_append, h] using fun a ha (e : a = k) => hk (e ▸ ha)

theorem eq_or_mem_of_mem_insert {m : AMap K V} {k : K} {v : V} {x : K × V} (h : x ∈ insert m k v) :
    x = (k, v) ∨ x ∈ m := by
  fun_induction insert m k v with
  | case1 => exact .inl (List.mem_singleton.1 h)
  | case2 b rest => exact (List.mem_cons.1 h).imp_right (List.mem_cons_of_mem _)
  | case3 a b rest hak ih =>
    rcases List.mem_cons.1 h with rfl | h1
    · exact .inr List.mem_cons_self
    · exact (ih h1).imp_right (List.mem_cons_of_mem _)

omit [DecidableEq K] in
theorem keys_foldl_nodup {α : Type} {step : AMap K V → α → AMap K V} {l : List α} {init : AMap K V}
    (hstep : ∀ m x, (keys m).Nodup → (keys (step m x)).Nodup) (h : (keys init).Nodup) :
    (keys (l.foldl step init)).Nodup :=
  List.foldlRecOn l step h (fun m hm x _ => hstep m x hm)

omit [DecidableEq K] in
theorem mem_keys_of_mem {m : AMap K V} {k : K} {v : V} (h : (k, v) ∈ m) : k ∈ keys m :=
  List.mem_map_of_mem (f := (·.1)) h

theorem mem_keys_iff_contains (m : AMap K V) (k : K) :
    k ∈ keys m ↔ m.contains k = true := by
  unfold contains
  fun_induction get? m k with
  | case1 => simp [keys]
  | case2 v rest => simp [keys]
  | case3 a v rest h ih => rw [keys_cons, List.mem_cons, ih]; simp [Ne.symm h]

theorem get?_eq_none {m : AMap K V} {k : K} (h : k ∉ keys m) : get? m k = none :=
  Option.not_isSome_iff_eq_none.1 fun hs => h ((mem_keys_iff_contains m k).2 hs)

theorem get?_erase (m : AMap K V) (k k' : K) :
    get? (erase m k) k' = if k = k' then none else get? m k' := by
  by_cases h : k = k'
  · subst h
    rw [if_pos rfl]
    exact get?_eq_none (by simp [keys, erase])
  · rw [if_neg h]
    unfold erase
    fun_induction get? m k' with
    | case1 => rfl
    | case2 v rest => rw [List.filter_cons, if_pos (by simpa using Ne.symm h), get?_cons, if_pos rfl]
    | case3 a v rest ha ih =>
      rw [List.filter_cons]
      split
      · rw [get?_cons, if_neg ha, ih]
      · exact ih

theorem mem_of_get? {m : AMap K V} {k : K} {v : V} (h : get? m k = some v) : (k, v) ∈ m := by
  fun_induction get? m k with
  | case1 => cases h
  | case2 w rest => cases h; exact List.mem_cons_self
  | case3 a w rest _ ih => exact List.mem_cons_of_mem _ (ih h)

theorem mem_iff_get? {m : AMap K V} (hn : (keys m).Nodup) (k : K) (v : V) :
    (k, v) ∈ m ↔ get? m k = some v := by
  refine ⟨fun h => ?_, mem_of_get?⟩
  fun_induction get? m k with
  | case1 => cases h
  | case2 w rest =>
    rw [keys_cons, List.nodup_cons] at hn
    rcases List.mem_cons.1 h with h | h
    · cases h; rfl
    · exact absurd (mem_keys_of_mem h) hn.1
  | case3 a w rest hak ih =>
    rw [keys_cons, List.nodup_cons] at hn
    exact ih hn.2 ((List.mem_cons.1 h).resolve_left fun e => hak (by cases e; rfl))

theorem get?_eq_of_perm {m₁ m₂ : AMap K V} (hp : m₁.Perm m₂) (hn : (keys m₂).Nodup) (k : K) :
    get? m₁ k = get? m₂ k := by
  have hn₁ : (keys m₁).Nodup := (hp.map _).nodup_iff.2 hn
  apply Option.ext
  intro v
  rw [← mem_iff_get? hn₁, ← mem_iff_get? hn, hp.mem_iff]

theorem perm_of_get?_eq {m₁ m₂ : AMap K V} (h₁ : (keys m₁).Nodup) (h₂ : (keys m₂).Nodup)
    (h : ∀ k, get? m₁ k = get? m₂ k) : m₁.Perm m₂ := by
  have nodup : ∀ {m : AMap K V}, (keys m).Nodup → m.Nodup := fun hk =>
    List.Pairwise.of_map (·.1) (fun _ _ hne he => hne (he ▸ rfl)) hk
  refine (List.perm_ext_iff_of_nodup (nodup h₁) (nodup h₂)).2 fun e => ?_
  rw [mem_iff_get? h₁, mem_iff_get? h₂, h]

/-- the Go loop `for k, v := range m { if p k v { res[k] = f k v } }`, run over any list `l` of entries of `m` -/
theorem get?_foldl_insertIf {W : Type} (p : K → V → Prop) [∀ k v, Decidable (p k v)] (f : K → V → W)
    (m : AMap K V) (l : List (K × V)) (h : ∀ e ∈ l, get? m e.1 = some e.2) (init : AMap K W) (k : K) :
    get? (l.foldl (fun res e => if p e.1 e.2 then res.insert e.1 (f e.1 e.2) else res) init) k =
      match get? m k with
      | some v => if k ∈ keys l ∧ p k v then some (f k v) else get? init k
      | none => get? init k := by
  induction l generalizing init with
  | nil => cases get? m k <;> simp [keys]
  | cons x xs ih =>
    rw [List.foldl_cons, ih (fun e he => h e (List.mem_cons_of_mem _ he)), keys_cons]
    by_cases hx : x.1 = k
    · subst hx
      rw [h x List.mem_cons_self]
      by_cases hp : p x.1 x.2 <;> simp [hp, get?_insert_self]
    · have hi : get? (if p x.1 x.2 then init.insert x.1 (f x.1 x.2) else init) k = get? init k := by
        split
        · exact get?_insert_ne _ _ hx
        · rfl
      cases get? m k <;> simp [hi, Ne.symm hx]

end AMap
end Shutter
